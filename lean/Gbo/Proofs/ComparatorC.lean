import Gbo.Proofs.ComparatorB
/-
  All slabs of the region comparator and the region outside the breakpoints: one soundness theorem over the
  cells the comparator answers for (`regionFormulaCheck_sound_cell`); tolerance 0 and the checked cells of a
  positive tolerance are its two readings.
-/
namespace Gbo.Spec
open Gbo

theorem checkSlab_inl_ne_ok {all : List Tagged} {f : Array Bool → Bool} {n : Nat} {tol x0 x1 : Rat} {acc : Nat × Nat}
    {r : CheckResult} (h : checkSlab all f n tol x0 x1 acc = .inl r) : ∀ c t, r ≠ .ok c t := by
  rintro c t rfl
  revert h
  -- the branches of `checkSlab` return `.inl (.unordered _)`, `.inl (.fail _)` or `.inr _`
  fun_cases checkSlab all f n tol x0 x1 acc <;> nofun

/-- the cells the comparator answers for: `q` lies strictly inside a slab and, for a positive tolerance, the
    slab is wider and the cell of `q` thicker than the tolerance.  With tolerance 0 nothing more is asked:
    `ThickAt all 0` does not follow from `q` avoiding the breakpoints (that would trust `breakpoints`), it is
    what `checkSlab` establishes from the order of the spanning edges at both slab ends.  Hence the disjunct
    `tol = 0`, which `InCheckedCell` (the cells of a positive tolerance) does not have. -/
def InCell (all : List Tagged) (tol : Rat) : List Rat → Pt → Prop
  | x0 :: x1 :: rest, q =>
    (x0 < q.x ∧ q.x < x1 ∧ (tol = 0 ∨ tol < x1 - x0 ∧ ThickAt all tol x0 x1 q)) ∨ InCell all tol (x1 :: rest) q
  | _, _ => False

/-- `q` lies in a slab wider than the tolerance and its cell is thicker than the tolerance -/
def InCheckedCell (all : List Tagged) (tol : Rat) : List Rat → Pt → Prop
  | x0 :: x1 :: rest, q =>
    (x0 < q.x ∧ q.x < x1 ∧ tol < x1 - x0 ∧ ThickAt all tol x0 x1 q) ∨ InCheckedCell all tol (x1 :: rest) q
  | _, _ => False

theorem InCheckedCell.inCell {all : List Tagged} {tol : Rat} {q : Pt} : ∀ {xs : List Rat},
    InCheckedCell all tol xs q → InCell all tol xs q
  | [], h | [_], h => h
  | _ :: _ :: _, h => h.imp (fun ⟨h0, h1, hw⟩ => ⟨h0, h1, Or.inr hw⟩) InCheckedCell.inCell

theorem checkSlabs_sound_cell {all : List Tagged} {f : Array Bool → Bool} {n : Nat} {tol : Rat} (htol : 0 ≤ tol)
    {q : Pt} (hclear : ∀ u ∈ all, onSeg q u.seg = false)
    (xs : List Rat) (acc : Nat × Nat) (c t : Nat) (h : checkSlabs all f n tol xs acc = .ok c t)
    (hb : InCell all tol xs q) : f (vecOf n (all.filter (fun u => edgeBelow q u.seg))) = true := by
  fun_induction checkSlabs all f n tol xs acc with
  | case1 x0 x1 rest acc hthin h01 ih =>
    -- a slab no wider than the tolerance is skipped, and `q` is not in it (tolerance 0 skips no slab with `x0 < x1`)
    refine ih h (hb.resolve_left ?_)
    rintro ⟨_, _, rfl | ⟨hw, _⟩⟩
    · exact (sub_pos.2 h01).not_ge hthin
    · exact hw.not_ge hthin
  | case2 => cases h
  | case3 x0 x1 rest acc hthin r hs => exact absurd h (checkSlab_inl_ne_ok hs c t)
  | case4 x0 x1 rest acc hthin acc' hs ih =>
    rcases hb with ⟨h0, h1, hth⟩ | hb
    · exact checkSlab_sound_tol htol hs h0 h1 hclear (hth.imp_right And.right)
    · exact ih h hb
  | case5 xs acc hne =>
    -- fewer than two breakpoints: no cell
    unfold InCell at hb
    split at hb
    · exact absurd rfl (hne _ _ _)
    · exact hb.elim

/-- discrete intermediate value -/
theorem inCell_of_bounds (all : List Tagged) (q : Pt) : ∀ (xs : List Rat) (lo hi : Rat),
    xs.head? = some lo → xs.getLast? = some hi → lo < q.x → q.x < hi → (∀ y ∈ xs, q.x ≠ y) → InCell all 0 xs q := by
  intro xs
  induction xs with
  | nil => exact fun _ _ h => nomatch h
  | cons a rest ih =>
    intro lo hi hh hl hlo hhi hne
    cases hh
    cases rest with
    | nil => cases hl; exact absurd (hlo.trans hhi) (lt_irrefl _)
    | cons b rest =>
      by_cases hxb : q.x < b
      · exact Or.inl ⟨hlo, hxb, Or.inl rfl⟩
      · have hbx : b < q.x := (not_lt.1 hxb).lt_of_ne' (hne b (.tail _ (.head _)))
        exact Or.inr (ih b hi rfl (List.getLast?_cons_cons ▸ hl) hbx hhi fun y hy => hne y (.tail _ hy))

theorem filter_below_outside (all : List Tagged) (xs : List Rat) (hb : boundsOk all xs = true) (q : Pt)
    (hq : (∀ lo, xs.head? = some lo → q.x < lo) ∨ (∀ hi, xs.getLast? = some hi → hi < q.x)) :
    all.filter (fun t => edgeBelow q t.seg) = [] := by
  revert hb
  fun_cases boundsOk all xs with
  | case1 lo hi hlast hhead =>
    intro hb
    rw [List.filter_eq_nil_iff]
    intro t ht
    have := List.all_eq_true.1 hb t ht
    rw [Bool.and_eq_true, decide_eq_true_eq, decide_eq_true_eq] at this
    rw [edgeBelow_iff]
    rintro ⟨⟨hl, hr⟩, -⟩
    rcases hq with hq | hq
    · exact absurd (hq lo hhead) (not_lt.2 (this.1.trans hl))
    · exact absurd (hq hi hlast) (not_lt.2 (hr.le.trans this.2))
  | case2 =>
    -- no breakpoints: no edges
    intro hb
    rw [List.isEmpty_iff.1 hb]
    rfl

theorem mem_tagAll {atoms : Array (List Seg)} {t : Tagged} (h : t ∈ tagAll atoms) :
    t.atom < atoms.size ∧ t.seg ∈ atoms[t.atom]! := by
  obtain ⟨i, hi, ht⟩ := List.mem_flatMap.1 h
  obtain ⟨s, hs, rfl⟩ := List.mem_map.1 ht
  exact ⟨List.mem_range.mp hi, hs⟩

theorem regionFormulaCheck_sound_cell (atoms : Array (List Seg)) (f : Array Bool → Bool) (tol : Rat) (htol : 0 ≤ tol)
    (c t : Nat) (h : regionFormulaCheck atoms f tol = .ok c t) (q : Pt)
    (hclear : ∀ i, i < atoms.size → ∀ e ∈ atoms[i]!, onSeg q e = false)
    (hcell : (∀ lo, (breakpoints (tagAll atoms)).head? = some lo → q.x < lo)
           ∨ (∀ hi, (breakpoints (tagAll atoms)).getLast? = some hi → hi < q.x)
           ∨ InCell (tagAll atoms) tol (breakpoints (tagAll atoms)) q) :
    f (atoms.map (fun es => memEdges es q)) = true := by
  rw [memVec_eq_vecOf]
  unfold regionFormulaCheck at h
  obtain ⟨hbounds, h⟩ := of_ite_ne h nofun
  obtain ⟨hout, h⟩ := of_ite_ne h nofun
  rw [Bool.not_eq_true, Bool.not_eq_false'] at hbounds hout
  rcases or_assoc.2 hcell with ho | hin
  · rw [filter_below_outside _ _ hbounds q ho]
    exact hout
  · exact checkSlabs_sound_cell htol (fun u hu => hclear u.atom (mem_tagAll hu).1 u.seg (mem_tagAll hu).2) _ (0, 0) c t h hin

/-- tolerance 0: the formula holds at EVERY point of the plane that lies on no edge and on none of the finitely many
    vertical breakpoint lines -/
theorem regionFormulaCheck_sound (atoms : Array (List Seg)) (f : Array Bool → Bool) (c t : Nat)
    (h : regionFormulaCheck atoms f 0 = .ok c t) (q : Pt)
    (hclear : ∀ i, i < atoms.size → ∀ e ∈ atoms[i]!, onSeg q e = false)
    (hx : ∀ y ∈ breakpoints (tagAll atoms), q.x ≠ y) :
    f (atoms.map (fun es => memEdges es q)) = true := by
  refine regionFormulaCheck_sound_cell atoms f 0 le_rfl c t h q hclear ?_
  by_cases hl : ∀ lo, (breakpoints (tagAll atoms)).head? = some lo → q.x < lo
  · exact Or.inl hl
  by_cases hr : ∀ hi, (breakpoints (tagAll atoms)).getLast? = some hi → hi < q.x
  · exact Or.inr (Or.inl hr)
  simp only [not_forall, not_lt] at hl hr
  obtain ⟨lo, hlo, hl⟩ := hl
  obtain ⟨hi, hhi, hr⟩ := hr
  exact Or.inr (Or.inr (inCell_of_bounds _ q _ lo hi hlo hhi
    (lt_of_le_of_ne hl (fun e => hx lo (List.mem_of_head? hlo) e.symm))
    (lt_of_le_of_ne hr (hx hi (List.mem_of_getLast? hhi))) hx))

/-- any tolerance ≥ 0: left or right of all edges, or in a checked cell (a slab wider than the tolerance, in a gap
    thicker than the tolerance) -/
theorem regionFormulaCheck_sound_tol (atoms : Array (List Seg)) (f : Array Bool → Bool) (tol : Rat) (htol : 0 ≤ tol)
    (c t : Nat) (h : regionFormulaCheck atoms f tol = .ok c t) (q : Pt)
    (hclear : ∀ i, i < atoms.size → ∀ e ∈ atoms[i]!, onSeg q e = false)
    (hcell : (∀ y ∈ breakpoints (tagAll atoms), q.x < y) ∨ (∀ y ∈ breakpoints (tagAll atoms), y < q.x)
             ∨ InCheckedCell (tagAll atoms) tol (breakpoints (tagAll atoms)) q) :
    f (atoms.map (fun es => memEdges es q)) = true :=
  regionFormulaCheck_sound_cell atoms f tol htol c t h q hclear
    (hcell.imp (fun h lo hlo => h lo (List.mem_of_head? hlo))
      (Or.imp (fun h hi hhi => h hi (List.mem_of_getLast? hhi)) InCheckedCell.inCell))

end Gbo.Spec
