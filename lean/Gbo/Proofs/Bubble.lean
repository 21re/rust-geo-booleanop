import Gbo.Model.Connect
import Gbo.Proofs.Basics
/-
  Termination and result of the bubble sort in `order_events` (connect_edges.rs).  The loop
  `while !sorted { one pass of adjacent swaps }` terminates whenever the comparison is antisymmetric on the
  events listed: every swap removes exactly one inversion.  Transitivity is not needed for termination.
-/
namespace Gbo

section inv
variable (lt : Nat → Nat → Bool)

/-- number of pairs `i < j` with `lt l[i] l[j]` (pairs the sort wants to exchange) -/
def invCount : List Nat → Nat
  | [] => 0
  | x :: xs => xs.countP (lt x) + invCount xs

theorem invCount_le (l : List Nat) : invCount lt l ≤ l.length * l.length := by
  induction l with
  | nil => exact Nat.le_refl 0
  | cons x xs ih =>
    calc invCount lt (x :: xs) ≤ xs.length + xs.length * xs.length := Nat.add_le_add List.countP_le_length ih
      _ = (xs.length + 1) * xs.length := by rw [Nat.succ_mul, Nat.add_comm]
      _ ≤ (xs.length + 1) * (xs.length + 1) := Nat.mul_le_mul_left _ (Nat.le_succ _)

theorem invCount_swap (p s : List Nat) (x y : Nat) (hxy : lt x y = true) (hyx : lt y x = false) :
    invCount lt (p ++ x :: y :: s) = invCount lt (p ++ y :: x :: s) + 1 := by
  induction p with
  | nil =>
    simp only [List.nil_append, invCount, List.countP_cons_of_pos hxy,
      List.countP_cons_of_neg (Bool.not_eq_true _ ▸ hyx)]
    omega
  | cons q p ih =>
    -- `q` sees the same elements after it
    simp only [List.cons_append, invCount, ih]
    rw [(List.Perm.append_left p (List.Perm.swap y x s)).countP_eq, Nat.add_assoc]

end inv

theorem set_adjacent {α : Type} {p : List α} {n : Nat} (hp : p.length = n) (s : List α) (x y a b : α) :
    ((p ++ x :: y :: s).set n a).set (n + 1) b = p ++ a :: b :: s := by
  subst hp
  induction p with
  | nil => rfl
  | cons q p ih => exact congrArg (q :: ·) ih

/-- exchanging an adjacent pair that asks for it, and only in that direction, removes exactly one inversion -/
theorem invCount_swapIfInBounds (lt : Nat → Nat → Bool) (r : Array Nat) (n : Nat) (h : n + 1 < r.size)
    (hxy : lt r[n]! r[n + 1]! = true) (hyx : lt r[n + 1]! r[n]! = false) :
    invCount lt r.toList = invCount lt (r.swapIfInBounds n (n + 1)).toList + 1 := by
  have hn : n < r.size := Nat.lt_of_succ_lt h
  rw [getElem!_pos r n hn, getElem!_pos r (n + 1) h] at hxy hyx
  -- the list around the two elements, and what the two `set`s of `swap` make of it
  have e : r.toList = r.toList.take n ++ r[n] :: r[n + 1] :: r.toList.drop (n + 2) := by
    rw [← Array.getElem_toList, ← Array.getElem_toList, List.getElem_cons_drop, List.getElem_cons_drop,
      List.take_append_drop]
  have e' := (congrArg (fun l => (l.set n r[n + 1]).set (n + 1) r[n]) e).trans
    (set_adjacent (List.length_take_of_le (Nat.le_of_lt hn)) _ _ _ _ _)
  rw [Array.swapIfInBounds_def, dif_pos hn, dif_pos h, Array.toList_swap, e']
  exact (congrArg (invCount lt) e).trans (invCount_swap lt _ _ _ _ hxy hyx)

/-- the body of the loop in `bubblePass`, named -/
def bubbleStep (a : Arena) (acc : Array Nat × Bool) (k : Nat) : Array Nat × Bool :=
  if cmpEv a acc.1[k]! acc.1[k + 1]! == .lt then (acc.1.swapIfInBounds k (k + 1), true) else acc

theorem bubblePass_eq (a : Arena) (r : Array Nat) :
    bubblePass a r = (List.range (r.size - 1)).foldl (bubbleStep a) (r, false) := rfl

def evLt (a : Arena) (x y : Nat) : Bool := cmpEv a x y == .lt

/-- the comparison never says "exchange" in both directions on the listed events -/
def AntiOn (a : Arena) (l : List Nat) : Prop :=
  ∀ x ∈ l, ∀ y ∈ l, evLt a x y = true → evLt a y x = false

theorem AntiOn.perm {a : Arena} {l l' : List Nat} (h : AntiOn a l) (hp : l'.Perm l) : AntiOn a l' :=
  fun x hx y hy => h x (hp.mem_iff.mp hx) y (hp.mem_iff.mp hy)

theorem bubbleStep_perm (a : Arena) (acc : Array Nat × Bool) (k : Nat) : (bubbleStep a acc k).1.Perm acc.1 := by
  unfold bubbleStep
  split
  · exact swapIfInBounds_perm _ _ _
  · exact .rfl

theorem bubblePass_perm (a : Arena) (r : Array Nat) : (bubblePass a r).1.toList.Perm r.toList := by
  rw [bubblePass_eq]
  exact Array.perm_iff_toList_perm.mp
    (foldl_inv (J := fun acc => acc.1.Perm r) (fun acc k _ h => (bubbleStep_perm a acc k).trans h) .rfl)

theorem bubbleSort_succ (a : Arena) (fuel : Nat) (r : Array Nat) : bubbleSort a (fuel + 1) r =
    if (bubblePass a r).2 then bubbleSort a fuel (bubblePass a r).1 else some (bubblePass a r).1 := rfl

theorem bubbleSort_perm {a : Arena} {fuel : Nat} {r r' : Array Nat} (h : bubbleSort a fuel r = some r') :
    r'.toList.Perm r.toList := by
  induction fuel generalizing r with
  | zero => cases h
  | succ fuel ih =>
    rw [bubbleSort_succ] at h
    split at h
    · exact (ih h).trans (bubblePass_perm a r)
    · exact Option.some.inj h ▸ bubblePass_perm a r

/-- state of a pass after `n` comparisons: an exchange has cost an inversion; as long as nothing is exchanged the
    array is the one the pass started from, with its first `n` pairs in order -/
structure PassInv (a : Arena) (r0 : Array Nat) (n : Nat) (acc : Array Nat × Bool) : Prop where
  perm : acc.1.Perm r0
  count : invCount (evLt a) acc.1.toList + (if acc.2 then 1 else 0) ≤ invCount (evLt a) r0.toList
  same : acc.2 = false → acc.1 = r0 ∧ ∀ j, j < n → evLt a r0[j]! r0[j + 1]! = false

theorem bubbleStep_inv (a : Arena) (r0 : Array Nat) (hanti : AntiOn a r0.toList) (n : Nat) (hn : n + 1 < r0.size)
    (acc : Array Nat × Bool) (h : PassInv a r0 n acc) : PassInv a r0 (n + 1) (bubbleStep a acc n) := by
  obtain ⟨r, sw⟩ := acc
  unfold bubbleStep
  split
  · -- an exchange removes one inversion
    rename_i hc
    have hn' : n + 1 < r.size := h.perm.size_eq ▸ hn
    have hanti' := hanti.perm (Array.perm_iff_toList_perm.mp h.perm)
    have hgt := hanti' _ (get!_mem (Nat.lt_of_succ_lt hn')) _ (get!_mem hn') hc
    refine ⟨(swapIfInBounds_perm r n (n + 1)).trans h.perm, ?_, nofun⟩
    show _ + 1 ≤ _
    rw [← invCount_swapIfInBounds (evLt a) r n hn' hc hgt]
    exact Nat.le_trans (Nat.le_add_right _ _) h.count
  · rename_i hc
    refine ⟨h.perm, h.count, fun hsw => ?_⟩
    obtain ⟨rfl, hj⟩ := h.same hsw
    exact ⟨rfl, fun j hjn => (Nat.lt_succ_iff_lt_or_eq.mp hjn).elim (hj j) fun e => e ▸ Bool.eq_false_iff.mpr hc⟩

theorem bubblePass_inv (a : Arena) (r0 : Array Nat) (hanti : AntiOn a r0.toList) :
    PassInv a r0 (r0.size - 1) (bubblePass a r0) := by
  rw [bubblePass_eq]
  exact foldl_range_inv (P := PassInv a r0) (b := (r0, false))
    (fun n acc hn h => bubbleStep_inv a r0 hanti n (Nat.add_lt_of_lt_sub hn) acc h)
    ⟨.rfl, Nat.le_refl _, fun _ => ⟨rfl, fun j hj => absurd hj (Nat.not_lt_zero j)⟩⟩

def AdjSorted (a : Arena) (r : Array Nat) : Prop := ∀ j, j + 1 < r.size → evLt a r[j]! r[j + 1]! = false

theorem bubbleSort_terminates (a : Arena) (fuel : Nat) (r : Array Nat) (hanti : AntiOn a r.toList)
    (hfuel : invCount (evLt a) r.toList < fuel) :
    ∃ r', bubbleSort a fuel r = some r' ∧ r'.toList.Perm r.toList ∧ AdjSorted a r' := by
  induction fuel generalizing r with
  | zero => exact absurd hfuel (Nat.not_lt_zero _)
  | succ fuel ih =>
    have hpass := bubblePass_inv a r hanti
    have hperm := Array.perm_iff_toList_perm.mp hpass.perm
    rw [bubbleSort_succ]
    split
    · -- a pass that exchanged something leaves fewer inversions than the fuel that is left
      rename_i hsw
      have hless := hpass.count
      rw [if_pos hsw] at hless
      obtain ⟨r', h1, h2, h3⟩ := ih _ (hanti.perm hperm) (Nat.lt_of_lt_of_le hless (Nat.le_of_lt_succ hfuel))
      exact ⟨r', h1, h2.trans hperm, h3⟩
    · rename_i hsw
      obtain ⟨e, hj⟩ := hpass.same (Bool.eq_false_iff.mpr hsw)
      rw [e]
      exact ⟨r, rfl, .refl _, fun j hjn => hj j (Nat.lt_sub_of_add_lt hjn)⟩

end Gbo
