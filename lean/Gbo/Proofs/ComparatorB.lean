import Gbo.Proofs.Basics
import Gbo.Proofs.ComparatorA
/-
  One slab of the region comparator.  The edges spanning the slab, in an arrangement ordered at both slab ends, are
  ordered at every abscissa in between, so the edges below a point form an initial part of it; the walk through
  the gaps evaluates the formula after every initial part whose gap is neither closed nor thin, and the walk that is
  executed (membership vector kept incrementally) succeeds only if that one does.
-/
namespace Gbo.Spec
open Gbo

theorem filter_lt_split {α} (g : α → Rat) (Y : Rat) : ∀ l : List α, l.Pairwise (fun a b => g a ≤ g b) →
    ∃ post, l = l.filter (fun t => decide (g t < Y)) ++ post ∧ ∀ t ∈ post, Y ≤ g t
  | [], _ => ⟨[], rfl, nofun⟩
  | a :: rest, hp => by
    obtain ⟨ha, hrest⟩ := List.pairwise_cons.1 hp
    by_cases hlt : g a < Y
    · obtain ⟨post, hsplit, hpost⟩ := filter_lt_split g Y rest hrest
      refine ⟨post, ?_, hpost⟩
      rw [List.filter_cons_of_pos (p := fun t => decide (g t < Y)) (decide_eq_true hlt), List.cons_append, ← hsplit]
    · have hge : ∀ t ∈ a :: rest, Y ≤ g t := fun t ht =>
        (List.mem_cons.1 ht).elim (· ▸ not_lt.1 hlt) fun h => (not_lt.1 hlt).trans (ha t h)
      refine ⟨a :: rest, ?_, hge⟩
      rw [List.filter_eq_nil_iff.2 fun t ht => by simpa using hge t ht, List.nil_append]

theorem of_ite_inl {α β : Type} {c : Prop} [Decidable c] {a : α} {x : α ⊕ β} {r : β}
    (h : (if c then .inl a else x) = .inr r) : ¬ c ∧ x = .inr r := of_ite_ne h Sum.inl_ne_inr

/-- what a gap does to the counters when the walk goes on -/
def gapAcc : Option Bool → Nat × Nat → Nat × Nat
  | none, a => a
  | some true, (c, t) => (c, t + 1)
  | some false, (c, t) => (c + 1, t)

theorem walkGaps_cons (f : Array Bool → Bool) (n : Nat) (tol xm : Rat) (done : List Tagged) (b : Tagged)
    (rest : List Tagged) (acc : Nat × Nat) :
    walkGaps f n tol xm done (b :: rest) acc =
      if gapKind tol xm done.getLast? (some b) = some false ∧ f (vecOf n done) = false then .inl (some done)
      else walkGaps f n tol xm (done ++ [b]) rest (gapAcc (gapKind tol xm done.getLast? (some b)) acc) := by
  obtain ⟨c, t⟩ := acc
  rw [walkGaps]
  cases gapKind tol xm done.getLast? (some b) with
  | none => simp [gapAcc]
  | some thin => cases thin <;> cases f (vecOf n done) <;> simp [gapAcc]

theorem walkGapsV_cons (f : Array Bool → Bool) (tol xm : Rat) (last : Option Tagged) (k : Nat) (b : Tagged)
    (rest : List Tagged) (v : Array Bool) (acc : Nat × Nat) :
    walkGapsV f tol xm last k (b :: rest) v acc =
      if gapKind tol xm last (some b) = some false ∧ f v = false then .inl (some k)
      else walkGapsV f tol xm (some b) (k + 1) rest (v.modify b.atom (fun x => !x)) (gapAcc (gapKind tol xm last (some b)) acc) := by
  obtain ⟨c, t⟩ := acc
  rw [walkGapsV]
  cases gapKind tol xm last (some b) with
  | none => simp [gapAcc]
  | some thin => cases thin <;> cases f v <;> simp [gapAcc]

theorem walkGaps_nil (f : Array Bool → Bool) (n : Nat) (tol xm : Rat) (done : List Tagged) (acc : Nat × Nat) :
    walkGaps f n tol xm done [] acc = if f (vecOf n done) = false then .inl (some done) else .inr (acc.1 + 1, acc.2) := by
  rw [walkGaps]; cases f (vecOf n done) <;> rfl

theorem walkGapsV_nil (f : Array Bool → Bool) (tol xm : Rat) (last : Option Tagged) (k : Nat) (v : Array Bool)
    (acc : Nat × Nat) :
    walkGapsV f tol xm last k [] v acc = if f v = false then .inl (some k) else .inr (acc.1 + 1, acc.2) := by
  rw [walkGapsV]; cases f v <;> rfl

/-- a walk that succeeds has evaluated `f` in every real gap: wherever the edges still above are cut in two, if
    the gap at the cut is neither closed nor thin, `f` holds for the edges below the cut (above the last edge the
    gap is always real: `gapKind _ _ _ none = some false`) -/
theorem walkGaps_sound (f : Array Bool → Bool) (n : Nat) (tol xm : Rat) :
    ∀ (pre post done : List Tagged) (acc r : Nat × Nat),
      walkGaps f n tol xm done (pre ++ post) acc = .inr r →
      gapKind tol xm (done ++ pre).getLast? post.head? = some false → f (vecOf n (done ++ pre)) = true
  | [], post, done, acc, r, h, hreal => by
    rw [List.append_nil] at hreal ⊢
    rw [List.nil_append] at h
    apply Bool.of_not_eq_false
    intro hf
    cases post with
    | nil => rw [walkGaps_nil] at h; exact (of_ite_inl h).1 hf
    | cons b post => rw [walkGaps_cons] at h; exact (of_ite_inl h).1 ⟨hreal, hf⟩
  | b :: pre, post, done, acc, r, h, hreal => by
    rw [List.cons_append, walkGaps_cons] at h
    rw [List.append_cons] at hreal ⊢
    exact walkGaps_sound f n tol xm pre post _ _ r (of_ite_inl h).2 hreal

theorem oddCount_snoc (i : Nat) (done : List Tagged) (b : Tagged) :
    oddCount i (done ++ [b]) = (oddCount i done != (b.atom == i)) := by
  unfold oddCount
  rw [List.map_append, parity_append]
  simp [parity_cons, Props.parity_nil]

theorem vecOf_snoc (n : Nat) (done : List Tagged) (b : Tagged) :
    vecOf n (done ++ [b]) = (vecOf n done).modify b.atom (fun x => !x) := by
  apply Array.ext
  · simp [vecOf]
  · intro i h1 h2
    simp only [vecOf, Array.getElem_modify, Array.getElem_map, Array.getElem_range, oddCount_snoc]
    by_cases hb : b.atom = i
    · simp [hb]
    · simp [hb, beq_false_of_ne hb]

theorem walkGapsV_sound (f : Array Bool → Bool) (n : Nat) (tol xm : Rat) :
    ∀ (rest done : List Tagged) (acc r : Nat × Nat),
      walkGapsV f tol xm done.getLast? done.length rest (vecOf n done) acc = .inr r →
      walkGaps f n tol xm done rest acc = .inr r := by
  intro rest
  induction rest with
  | nil =>
    intro done acc r h
    rw [walkGapsV_nil] at h
    rw [walkGaps_nil, if_neg (of_ite_inl h).1]
    exact congrArg _ (Sum.inr.inj (of_ite_inl h).2)
  | cons b rest ih =>
    intro done acc r h
    rw [walkGapsV_cons] at h
    rw [walkGaps_cons, if_neg (of_ite_inl h).1]
    apply ih
    rw [List.getLast?_concat, List.length_append, vecOf_snoc]
    exact (of_ite_inl h).2

theorem insertByY_perm (xm : Rat) (t : Tagged) : ∀ l, List.Perm (insertByY xm t l) (t :: l)
  | [] => .refl _
  | u :: us => by
    rw [insertByY]
    split
    · exact .refl _
    · exact ((insertByY_perm xm t us).cons u).trans (.swap t u us)

theorem sortByY_perm (xm : Rat) (ts : List Tagged) : List.Perm (sortByY xm ts) ts := by
  have : ∀ ts acc : List Tagged, List.Perm (ts.foldl (fun l t => insertByY xm t l) acc) (ts ++ acc) := by
    intro ts
    induction ts with
    | nil => exact fun _ => .refl _
    | cons t ts ih => exact fun acc => (ih _).trans (((insertByY_perm xm t acc).append_left ts).trans List.perm_middle)
  simpa [sortByY] using this ts []

theorem spans_not_misses {e : Seg} {x0 x1 : Rat} (h01 : x0 < x1) (hs : spansSlab e x0 x1 = true) :
    missesSlab e x0 x1 = false := by
  obtain ⟨hne, hmin, hmax⟩ := spansSlab_iff.1 hs
  rw [missesSlab, decide_eq_false hne, decide_eq_false (not_le.2 (h01.trans_le hmax)),
    decide_eq_false (not_le.2 (hmin.trans_lt h01))]
  rfl

/-- the cell of `q` is thicker than the tolerance: any spanning edge below `q` and any spanning edge above
    `q` are more than `tol` apart at the middle of the slab -/
def ThickAt (all : List Tagged) (tol x0 x1 : Rat) (q : Pt) : Prop :=
  ∀ a ∈ all, ∀ b ∈ all, spansSlab a.seg x0 x1 = true → spansSlab b.seg x0 x1 = true →
    yAt a.seg q.x < q.y → q.y < yAt b.seg q.x → tol < yAt b.seg ((x0 + x1) / 2) - yAt a.seg ((x0 + x1) / 2)

theorem gapKind_of_lt {tol xm : Rat} {a b : Tagged} (htol : 0 ≤ tol) (h : tol < yAt b.seg xm - yAt a.seg xm) :
    gapKind tol xm (some a) (some b) = some false := by
  unfold gapKind
  simp only
  rw [if_neg (htol.trans_lt h).ne', decide_eq_false (not_le.2 h)]

theorem gapKind_of_apart {tol xm : Rat} (htol : 0 ≤ tol) {pre post : List Tagged}
    (h : ∀ a ∈ pre, ∀ b ∈ post, tol < yAt b.seg xm - yAt a.seg xm) :
    gapKind tol xm pre.getLast? post.head? = some false := by
  cases hlast : pre.getLast? with
  | none => rfl
  | some a =>
    cases hhead : post.head? with
    | none => rfl
    | some b =>
      exact gapKind_of_lt htol (h a (List.mem_of_getLast? hlast) b (List.mem_of_head? hhead))

theorem checkSlab_inr {all : List Tagged} {f : Array Bool → Bool} {n : Nat} {tol x0 x1 : Rat} {acc r : Nat × Nat}
    (h : checkSlab all f n tol x0 x1 acc = .inr r) :
    (∀ t ∈ all, (spansSlab t.seg x0 x1 || missesSlab t.seg x0 x1) = true) ∧
    ∃ sorted, sorted.Perm (all.filter (fun t => spansSlab t.seg x0 x1)) ∧
      orderedAt x0 sorted = true ∧ orderedAt x1 sorted = true ∧
      walkGaps f n tol ((x0 + x1) / 2) [] sorted acc = .inr r := by
  revert h
  fun_cases checkSlab all f n tol x0 x1 acc with
  | case3 xm hall sorted hord acc' hw =>
    -- the one branch that returns `.inr _`: both tests passed and the executed walk succeeded
    rintro ⟨⟩
    rw [Bool.not_eq_true, Bool.not_eq_false'] at hall hord
    rw [Bool.and_eq_true] at hord
    exact ⟨List.all_eq_true.1 hall, _, sortByY_perm _ _, hord.1, hord.2, walkGapsV_sound f n tol _ _ [] acc r hw⟩
  | _ => nofun

theorem checkSlab_sound_tol {all : List Tagged} {f : Array Bool → Bool} {n : Nat} {tol x0 x1 : Rat} {acc r : Nat × Nat}
    (htol : 0 ≤ tol) (h : checkSlab all f n tol x0 x1 acc = .inr r)
    {q : Pt} (h0 : x0 < q.x) (h1 : q.x < x1) (hclear : ∀ t ∈ all, onSeg q t.seg = false)
    (hthick : tol = 0 ∨ ThickAt all tol x0 x1 q) :
    f (vecOf n (all.filter (fun t => edgeBelow q t.seg))) = true := by
  obtain ⟨hall, sorted, hperm, ho0, ho1, hw⟩ := checkSlab_inr h
  have h01 : x0 < x1 := h0.trans h1
  have hmem : ∀ t ∈ sorted, t ∈ all ∧ spansSlab t.seg x0 x1 = true := fun t ht => List.mem_filter.1 (hperm.mem_iff.1 ht)
  -- the edges below `q` are the spanning edges whose line passes below `q`, in any arrangement
  rw [List.filter_congr fun t ht => edgeBelow_in_slab h0 h1 (hall t ht), ← List.filter_filter,
    ← vecOf_perm n (hperm.filter _)]
  -- the arrangement is ordered at both slab ends, hence at `q.x`: the edges below `q` come first
  have p01 := (pairwise_of_orderedAt x0 sorted ho0).and (pairwise_of_orderedAt x1 sorted ho1)
  obtain ⟨post, hsplit, hpost⟩ := filter_lt_split (fun t => yAt t.seg q.x) q.y sorted
    (p01.imp fun h => yAt_le_inside h01 h0.le h1.le h.1 h.2)
  rw [hsplit] at hw p01
  -- the gap between the edges below `q` and the others is neither closed nor thin
  refine walkGaps_sound f n tol _ _ post [] acc r hw (gapKind_of_apart htol fun a ha b hb => ?_)
  obtain ⟨haall, haspan⟩ := hmem a (List.mem_filter.1 ha).1
  obtain ⟨hball, hbspan⟩ := hmem b (hsplit ▸ List.mem_append_right _ hb)
  have hay : yAt a.seg q.x < q.y := of_decide_eq_true (List.mem_filter.1 ha).2
  -- `q` lies on no edge, so `b` passes strictly above it
  have hby : q.y < yAt b.seg q.x := lt_of_le_of_ne (hpost b hb) fun heq =>
    Bool.false_ne_true ((hclear b hball).symm.trans (onSeg_of_spans h0 h1 hbspan heq))
  rcases hthick with rfl | hthick
  · -- tolerance 0: ordered at both ends and different at `q.x`, hence different in the middle
    have hab := (List.pairwise_append.1 p01).2.2 a ha b hb
    exact sub_pos.2 (yAt_mid_lt h01 hab.1 hab.2 (hay.trans hby))
  · exact hthick a haall b hball haspan hbspan hay hby

end Gbo.Spec
