import Gbo.Proofs.Assembly
/-
  End to end: every ring returned by the sweep path of `boolean_operation` is the closed point list of a contour that
  `connect_edges` made of the swept events; `InputVertex` names the points of the events `fill_queue` created, the
  generators in C04's end-to-end statement (Props/C04).
-/
namespace Gbo

/-- the vertices of the operands as `fill_queue` stores them -/
def InputVertex (subject clipping : MPoly) (op : Op) (p : Pt) : Prop :=
  ∃ i, i < (fillQueue subject clipping op).fq.arena.size ∧ (fillQueue subject clipping op).fq.arena[i]!.point = p

theorem booleanOperation_rings {ar : Arith} {cfg : Cfg} {subject clipping : MPoly} {op : Op} {out : RunOut}
    (h : booleanOperation ar cfg subject clipping op = .ok out) (hnt : out.trivial = false) :
    ∃ sb cb sw contours a', subdivide ar cfg (fillQueue subject clipping op).fq sb cb op = .ok sw ∧
      connectEdges cfg sw.arena sw.sorted = .ok (contours, a') ∧
      ∀ poly, poly ∈ out.result → ∀ ring, ring ∈ poly.ext :: poly.holes →
        ∃ c, c ∈ contours.toList ∧ ring = closeRing c.points.toList := by
  obtain ⟨sb, cb, sw, cs, a', hsub, hcon, hb, hres⟩ := booleanOperation_assembly h hnt
  refine ⟨sb, cb, sw, cs, a', hsub, hcon, fun poly hpoly ring hring => ?_⟩
  obtain ⟨c, hc, e⟩ :=
    List.mem_map.mp ((hres ▸ hb.rings_perm).mem_iff.mp (List.mem_flatMap.mpr ⟨poly, hpoly, hring⟩))
  exact ⟨c, hc, e.symm⟩

end Gbo
