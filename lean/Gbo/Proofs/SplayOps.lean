import Gbo.Proofs.SplayBst
/-
  What a splay does to a search tree (`splay_split`: the root splits the in-order sequence at the key), the
  reference operations on a sorted association list, and how those pass over entries below the key (`_skip`) and
  stop before entries above it (`_allGt`).
-/
namespace Gbo
namespace Tree
variable {K V : Type} {cmp : K → K → Ordering}

theorem splay_split {cmp : K → K → Ordering} (h : LawfulCmp cmp) (key : K) (t : Tree K V) (hb : Bst cmp t)
    {l : Tree K V} {k : K} {v : V} {r : Tree K V} (hs : splay cmp key t = node l k v r) :
    AllLt cmp key (inorder l) ∧ AllGt cmp key (inorder r) ∧ inorder l ++ (k, v) :: inorder r = inorder t
    ∧ Bst cmp (node l k v r) := by
  have hin : inorder (node l k v r) = inorder t := hs ▸ splay_inorder cmp key t
  have hbst : Bst cmp (node l k v r) := by unfold Bst; rwa [hin]
  obtain ⟨hbl, hbr, hlk, hkr, -⟩ := (bst_node_iff ..).1 hbst
  obtain ⟨hlt, hgt⟩ : Closest cmp key (node l k v r) := hs ▸ splay_closest cmp key t
  refine ⟨?_, ?_, hin, hbst⟩
  -- the entries next to a root on the other side of `key` are beyond `key`; otherwise the order decides
  · by_cases hc : cmp key k = .lt
    · exact allLt_of_getLast? h hbl (hlt hc)
    · exact allLt_of_ne_lt h hc hlk
  · by_cases hc : cmp key k = .gt
    · exact allGt_of_head? h hbr (hgt hc)
    · exact allGt_of_ne_gt h hc hkr

def sGet (cmp : K → K → Ordering) (key : K) : List (K × V) → Option (K × V)
  | [] => none
  | (k, v) :: rest =>
    match cmp key k with
    | .eq => some (k, v)
    | .lt => none
    | .gt => sGet cmp key rest

def sInsert (cmp : K → K → Ordering) (key : K) (val : V) : List (K × V) → List (K × V) × Option V
  | [] => ([(key, val)], none)
  | (k, v) :: rest =>
    match cmp key k with
    | .eq => ((k, val) :: rest, some v)
    | .lt => ((key, val) :: (k, v) :: rest, none)
    | .gt => let r := sInsert cmp key val rest; ((k, v) :: r.1, r.2)

def sRemove (cmp : K → K → Ordering) (key : K) : List (K × V) → List (K × V) × Option V
  | [] => ([], none)
  | (k, v) :: rest =>
    match cmp key k with
    | .eq => (rest, some v)
    | .lt => ((k, v) :: rest, none)
    | .gt => let r := sRemove cmp key rest; ((k, v) :: r.1, r.2)

/-- smallest entry above `key` -/
def sNext (cmp : K → K → Ordering) (key : K) (l : List (K × V)) : Option (K × V) :=
  l.find? (fun x => cmp key x.1 == .lt)

/-- largest entry below `key` -/
def sPrev (cmp : K → K → Ordering) (key : K) (l : List (K × V)) : Option (K × V) :=
  (l.filter (fun x => cmp key x.1 == .gt)).getLast?

theorem sGet_skip {key : K} {A B : List (K × V)} (hA : AllLt cmp key A) :
    sGet cmp key (A ++ B) = sGet cmp key B := by
  induction A with
  | nil => rfl
  | cons x xs ih =>
    obtain ⟨k, v⟩ := x
    have : cmp key k = .gt := hA (k, v) List.mem_cons_self
    simp only [List.cons_append, sGet, this]
    exact ih (fun y hy => hA y (List.mem_cons_of_mem _ hy))

theorem sGet_allGt {key : K} {B : List (K × V)} (hB : AllGt cmp key B) : sGet cmp key B = none := by
  cases B with
  | nil => rfl
  | cons x xs =>
    obtain ⟨k, v⟩ := x
    have : cmp key k = .lt := hB (k, v) List.mem_cons_self
    simp [sGet, this]

theorem sInsert_skip {key : K} {val : V} {A B : List (K × V)} (hA : AllLt cmp key A) :
    sInsert cmp key val (A ++ B) = (A ++ (sInsert cmp key val B).1, (sInsert cmp key val B).2) := by
  induction A with
  | nil => rfl
  | cons x xs ih =>
    obtain ⟨k, v⟩ := x
    have : cmp key k = .gt := hA (k, v) List.mem_cons_self
    simp only [List.cons_append, sInsert, this]
    rw [ih (fun y hy => hA y (List.mem_cons_of_mem _ hy))]

theorem sInsert_allGt {key : K} {val : V} {B : List (K × V)} (hB : AllGt cmp key B) :
    sInsert cmp key val B = ((key, val) :: B, none) := by
  cases B with
  | nil => rfl
  | cons x xs =>
    obtain ⟨k, v⟩ := x
    have : cmp key k = .lt := hB (k, v) List.mem_cons_self
    simp [sInsert, this]

theorem sRemove_skip {key : K} {A B : List (K × V)} (hA : AllLt cmp key A) :
    sRemove cmp key (A ++ B) = (A ++ (sRemove cmp key B).1, (sRemove cmp key B).2) := by
  induction A with
  | nil => rfl
  | cons x xs ih =>
    obtain ⟨k, v⟩ := x
    have : cmp key k = .gt := hA (k, v) List.mem_cons_self
    simp only [List.cons_append, sRemove, this]
    rw [ih (fun y hy => hA y (List.mem_cons_of_mem _ hy))]

theorem sRemove_allGt {key : K} {B : List (K × V)} (hB : AllGt cmp key B) :
    sRemove cmp key B = (B, none) := by
  cases B with
  | nil => rfl
  | cons x xs =>
    obtain ⟨k, v⟩ := x
    have : cmp key k = .lt := hB (k, v) List.mem_cons_self
    simp [sRemove, this]

end Tree
end Gbo
