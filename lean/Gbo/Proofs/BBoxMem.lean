import Gbo.Proofs.Parity
import Gbo.Proofs.EdgeLine
/-
  A point outside the bounding box of a closed ring is outside the ring (crossing-number membership); two
  multipolygons whose exterior rings an axis-parallel line separates have no common point.
  This is what makes the bounding-box shortcut (`trivial_result`) and the early exits sound.
-/
namespace Gbo.Spec
open Gbo

theorem memEdges_false_of_all (es : List Seg) (q : Pt) (h : ∀ e ∈ es, edgeBelow q e = false) : memEdges es q = false :=
  parity_map_false es _ h

theorem mem_of_ringEdges : ∀ {r : Ring} {e : Seg}, e ∈ ringEdges r → e.1 ∈ r ∧ e.2 ∈ r
  | [], _, h | [_], _, h => nomatch h
  | p :: q :: rest, e, h => by
    rcases List.mem_cons.1 h with rfl | h
    · exact ⟨.head _, .tail _ (.head _)⟩
    · exact (mem_of_ringEdges h).imp (.tail _) (.tail _)

theorem memRing_false_of_edges (r : Ring) (q : Pt)
    (h : ∀ e : Seg, e.1 ∈ r → e.2 ∈ r → segMinX e ≤ q.x → q.x < segMaxX e → ¬ yAt e q.x < q.y) : memRing r q = false :=
  memEdges_false_of_all _ q fun e he => by
    rw [← Bool.not_eq_true, edgeBelow_iff]
    exact fun ⟨⟨hl, hr⟩, hy⟩ => h e (mem_of_ringEdges he).1 (mem_of_ringEdges he).2 hl hr hy

theorem memRing_false_of_left (r : Ring) (q : Pt) (h : ∀ p ∈ r, q.x < p.x) : memRing r q = false :=
  memRing_false_of_edges r q fun _ h1 h2 hl _ _ => (rmin_le_iff.1 hl).elim (h _ h1).not_ge (h _ h2).not_ge

theorem memRing_false_of_right (r : Ring) (q : Pt) (h : ∀ p ∈ r, p.x ≤ q.x) : memRing r q = false :=
  memRing_false_of_edges r q fun _ h1 h2 _ hr _ => (lt_rmax_iff.1 hr).elim (h _ h1).not_gt (h _ h2).not_gt

theorem memRing_false_of_below (r : Ring) (q : Pt) (h : ∀ p ∈ r, q.y < p.y) : memRing r q = false :=
  memRing_false_of_edges r q fun _ h1 h2 hl hr hy =>
    (rmin_le_iff.1 ((yAt_between (nonvertical_of_extent hl hr) hl hr.le).1.trans hy.le)).elim (h _ h1).not_ge (h _ h2).not_ge

theorem edgeBelow_of_above (q : Pt) (e : Seg) (h1 : e.1.y < q.y) (h2 : e.2.y < q.y) :
    edgeBelow q e = (decide (e.1.x ≤ q.x) != decide (e.2.x ≤ q.x)) := by
  rw [Bool.eq_iff_iff, edgeBelow_iff, and_iff_left_of_imp]
  · unfold segMinX segMaxX
    rw [rmin_le_iff, lt_rmax_iff, ← not_le, ← not_le]
    by_cases hp : e.1.x ≤ q.x <;> by_cases hq : e.2.x ≤ q.x <;> simp [hp, hq]
  · rintro ⟨hl, hr⟩
    exact (yAt_between (nonvertical_of_extent hl hr) hl hr.le).2.trans_lt (rmax_lt_iff.2 ⟨h1, h2⟩)

theorem parity_changes (F : Pt → Bool) : ∀ (r : Ring) (p : Pt),
    parity ((ringEdges (p :: r)).map (fun e => F e.1 != F e.2)) = (F p != F (r.getLastD p))
  | [], p => (bne_self_eq_false _).symm
  | p2 :: rest, p => by
    rw [ringEdges, List.map_cons, parity_cons, parity_changes F rest p2, List.getLastD_cons]
    cases F p <;> cases F p2 <;> cases F (rest.getLastD p2) <;> rfl

/-- above the ring every edge is below `q`, so an edge is counted exactly when its ends lie on different sides of the
    vertical through `q`; along a closed path the number of such changes is even -/
theorem memRing_false_of_above (r : Ring) (q : Pt) (hclosed : r.head? = r.getLast?) (h : ∀ p ∈ r, p.y < q.y) :
    memRing r q = false := by
  cases r with
  | nil => rfl
  | cons p rest =>
    rw [List.getLast?_cons, ← List.getLastD_eq_getLast?] at hclosed
    unfold memRing memEdges
    rw [List.map_congr_left fun e he => edgeBelow_of_above q e (h _ (mem_of_ringEdges he).1) (h _ (mem_of_ringEdges he).2),
      parity_changes (fun p => decide (p.x ≤ q.x)), ← Option.some.inj hclosed]
    exact bne_self_eq_false _

theorem memRing_false_outside_box (r : Ring) (q : Pt) (hclosed : r.head? = r.getLast?)
    (hout : (∀ p ∈ r, q.x < p.x) ∨ (∀ p ∈ r, p.x ≤ q.x) ∨ (∀ p ∈ r, q.y < p.y) ∨ (∀ p ∈ r, p.y < q.y)) :
    memRing r q = false := by
  rcases hout with h | h | h | h
  · exact memRing_false_of_left r q h
  · exact memRing_false_of_right r q h
  · exact memRing_false_of_below r q h
  · exact memRing_false_of_above r q hclosed h

theorem memMP_false_of_ext (m : MPoly) (q : Pt) (h : ∀ p ∈ m, memRing p.ext q = false) : memMP m q = false := by
  unfold memMP
  rw [List.any_eq_false]
  intro p hp
  simp [memPoly, h p hp]

theorem memMP_append (a b : MPoly) (q : Pt) : memMP (a ++ b) q = (memMP a q || memMP b q) := by
  unfold memMP; rw [List.any_append]

theorem not_both_of_vertical {a b : MPoly} {c : Rat} (h1 : ∀ p ∈ a, ∀ v ∈ p.ext, v.x ≤ c)
    (h2 : ∀ p ∈ b, ∀ v ∈ p.ext, c < v.x) (q : Pt) : memMP a q = false ∨ memMP b q = false := by
  by_cases hq : q.x ≤ c
  · exact Or.inr (memMP_false_of_ext b q fun p hp => memRing_false_of_left _ q fun v hv => hq.trans_lt (h2 p hp v hv))
  · exact Or.inl (memMP_false_of_ext a q fun p hp => memRing_false_of_right _ q fun v hv =>
      (h1 p hp v hv).trans (not_le.1 hq).le)

theorem not_both_of_horizontal {a b : MPoly} {c : Rat} (ha : ∀ p ∈ a, p.ext.head? = p.ext.getLast?)
    (h1 : ∀ p ∈ a, ∀ v ∈ p.ext, v.y ≤ c) (h2 : ∀ p ∈ b, ∀ v ∈ p.ext, c < v.y) (q : Pt) :
    memMP a q = false ∨ memMP b q = false := by
  by_cases hq : q.y ≤ c
  · exact Or.inr (memMP_false_of_ext b q fun p hp => memRing_false_of_below _ q fun v hv => hq.trans_lt (h2 p hp v hv))
  · exact Or.inl (memMP_false_of_ext a q fun p hp => memRing_false_of_above _ q (ha p hp) fun v hv =>
      (h1 p hp v hv).trans_lt (not_le.1 hq))

end Gbo.Spec
