import Gbo.Model.Heap
import Gbo.Proofs.Basics
/-
  Contents of the queue without any assumption on the comparison: `push` and `pop` only permute (`push_perm`,
  `pop_perm`), whatever `le` is.  Both loops move a hole, and filling the hole after a move is a transposition
  (`move_perm`).  Also the index arithmetic of the implicit tree, proved once here.
-/
namespace Gbo.Heap

variable (le : Nat → Nat → Bool)

def par (i : Nat) : Nat := (i - 1) / 2

theorem par_lt {i : Nat} (h : 0 < i) : par i < i :=
  Nat.lt_of_le_of_lt (Nat.div_le_self _ _) (Nat.sub_lt h Nat.one_pos)

theorem half_iff {k pos : Nat} : k / 2 = pos ↔ k = 2 * pos ∨ k = 2 * pos + 1 := by
  constructor
  · intro h
    have hk : k = 2 * pos + k % 2 := h ▸ (Nat.div_add_mod k 2).symm
    exact (Nat.mod_two_eq_zero_or_one k).imp (fun e => hk.trans (congrArg _ e)) (fun e => hk.trans (congrArg _ e))
  · rintro (rfl | rfl)
    · exact Nat.mul_div_cancel_left pos Nat.two_pos
    · exact Nat.mul_add_div Nat.two_pos pos 1

theorem child_iff {c pos : Nat} : 0 < c ∧ par c = pos ↔ c = 2 * pos + 1 ∨ c = 2 * pos + 1 + 1 := by
  cases c with
  | zero => exact ⟨fun h => absurd h.1 (Nat.lt_irrefl 0), fun h => h.elim nofun nofun⟩
  | succ k =>
    exact ⟨fun h => (half_iff.mp h.2).imp (congrArg (· + 1)) (congrArg (· + 1)),
      fun h => ⟨k.succ_pos, half_iff.mpr (h.imp Nat.succ.inj Nat.succ.inj)⟩⟩

theorem child_gt {c pos : Nat} (h : c = 2 * pos + 1 ∨ c = 2 * pos + 1 + 1) : pos < c :=
  (child_iff.mpr h).2 ▸ par_lt (child_iff.mpr h).1

/- the three guards of `sift_down_to_bottom`, read as: two children, one child (the last slot), none -/

theorem two_kids {pos n c : Nat} (h : 2 * pos + 1 ≤ n - 2 ∧ n ≥ 2) (hc : c = 2 * pos + 1 ∨ c = 2 * pos + 1 + 1) :
    c < n :=
  have hn : 2 * pos + 1 + 2 ≤ n := Nat.add_le_of_le_sub h.2 h.1
  hc.elim (fun e => e ▸ Nat.lt_of_lt_of_le (Nat.lt_add_of_pos_right Nat.two_pos) hn) (fun e => e ▸ hn)

theorem one_kid {pos n : Nat} (h : 2 * pos + 1 = n - 1 ∧ n ≥ 1) : 2 * pos + 1 < n ∧ n ≤ 2 * pos + 1 + 1 :=
  have hn : n = 2 * pos + 1 + 1 := h.1 ▸ (Nat.sub_add_cancel h.2).symm
  ⟨hn ▸ Nat.lt_succ_self _, Nat.le_of_eq hn⟩

theorem no_kid {pos n : Nat} (h2 : ¬(2 * pos + 1 ≤ n - 2 ∧ n ≥ 2)) (h1 : ¬(2 * pos + 1 = n - 1 ∧ n ≥ 1)) :
    n ≤ 2 * pos + 1 :=
  -- otherwise `2 * pos + 2` is the last slot or an earlier one
  Nat.le_of_not_lt fun hlt => (Nat.eq_or_lt_of_le hlt).elim
    (fun e => h1 ⟨e ▸ rfl, e ▸ Nat.succ_pos _⟩)
    (fun hlt2 => h2 ⟨Nat.le_sub_of_add_le hlt2, Nat.le_trans (Nat.le_add_left 2 _) hlt2⟩)

theorem no_child {n pos c : Nat} (hn : n ≤ 2 * pos + 1) (hc0 : 0 < c) (hcn : c < n) : par c ≠ pos := fun h =>
  (child_iff.mp ⟨hc0, h⟩).elim (fun e => Nat.not_lt_of_le hn (e ▸ hcn))
    (fun e => Nat.not_lt_of_le hn (Nat.lt_of_succ_lt (show 2 * pos + 1 + 1 < n from e ▸ hcn)))

theorem ite_succ (p : Prop) [Decidable p] (c : Nat) :
    (if p then c + 1 else c) = c ∨ (if p then c + 1 else c) = c + 1 :=
  if h : p then .inr (if_pos h) else .inl (if_neg h)

theorem move_perm (d : Array Nat) (elt : Nat) {pos c : Nat} (hp : pos < d.size) (hc : c < d.size) (hne : pos ≠ c) :
    ((d.set! pos d[c]!).set! c elt).Perm (d.set! pos elt) := by
  -- the left side is `d.set! pos elt` with slots `pos` and `c` swapped: `pos` receives `d[c]` (which `set! pos` left
  -- alone, as `pos ≠ c`), `c` receives `elt`; `simp` computes the swap
  have := Array.swap_perm (xs := d.set! pos elt) (i := pos) (j := c) (by simpa) (by simpa)
  simp [Array.swap, hp, hc, Array.setIfInBounds_def, hne] at this ⊢
  exact this

theorem siftUpLoop_perm {elt fuel : Nat} {d : Array Nat} {pos : Nat} (hp : pos < d.size) :
    (siftUpLoop le elt fuel d pos).Perm (d.set! pos elt) := by
  fun_induction siftUpLoop le elt fuel d pos with
  | case3 fuel d pos h0 parent _ ih =>
    have hq : parent < pos := par_lt h0
    have hqn := Nat.lt_trans hq hp
    exact (ih ((Array.size_set! ..).symm ▸ hqn)).trans (move_perm d elt hp hqn (Nat.ne_of_gt hq))
  | _ => exact .rfl

theorem siftDownLoop_perm (n fuel : Nat) (d : Array Nat) (pos elt : Nat) (hn : d.size = n) (hp : pos < n) :
    let r := siftDownLoop le n fuel d pos
    (r.1.set! r.2 elt).Perm (d.set! pos elt) ∧ r.2 < n := by
  fun_induction siftDownLoop le n fuel d pos with
  | case2 fuel d pos c1 h2 child ih =>
    have hk := ite_succ (le d[c1]! d[c1 + 1]! = true) c1
    have hc : child < n := two_kids h2 hk
    obtain ⟨i1, i2⟩ := ih ((Array.size_set! ..).trans hn) hc
    exact ⟨i1.trans (move_perm d elt (hn ▸ hp) (hn ▸ hc) (Nat.ne_of_lt (child_gt hk))), i2⟩
  | case3 fuel d pos child _ h1 =>
    have hc : child < n := (one_kid h1).1
    exact ⟨move_perm d elt (hn ▸ hp) (hn ▸ hc) (Nat.ne_of_lt (child_gt (Or.inl rfl))), hc⟩
  | _ => exact ⟨.rfl, hp⟩

theorem siftDownToBottom_perm (d : Array Nat) (h : 0 < d.size) : (siftDownToBottom le d).Perm d := by
  obtain ⟨r1, r2⟩ := siftDownLoop_perm le d.size d.size d 0 d[0]! rfl h
  have hs : (siftDownLoop le d.size d.size d 0).1.size = d.size := by simpa using r1.size_eq
  exact (siftUpLoop_perm le (hs.symm ▸ r2)).trans (r1.trans (.of_eq (set!_get!_self d 0)))

theorem push_perm (d : Array Nat) (x : Nat) : (push le d x).Perm (d.push x) :=
  (siftUpLoop_perm le (by simp)).trans (.of_eq (set!_get!_self _ _))

/-- `pop` seen from the array without its last element -/
theorem pop_push (a : Array Nat) (l : Nat) :
    pop le (a.push l) = some ((a.push l)[0]!, if a.size = 0 then a else siftDownToBottom le (a.set! 0 l)) := by
  have hl : (a.push l)[a.size + 1 - 1]! = l := by simp
  simp only [pop, Array.size_push, Array.pop_push, Nat.succ_ne_zero, if_false, hl]
  split
  · rename_i h0
    rw [Array.eq_empty_of_size_eq_zero h0]
    rfl
  · rename_i h0
    rw [get!_push_lt l (Nat.pos_of_ne_zero h0)]

theorem pop_none_iff (d : Array Nat) : pop le d = none ↔ d.size = 0 := by
  refine ⟨fun h => Classical.byContradiction fun h0 => ?_, fun h => by simp [pop, h]⟩
  rw [Array.eq_push_pop_back!_of_size_ne_zero h0, pop_push] at h
  cases h

theorem pop_some {le : Nat → Nat → Bool} {d : Array Nat} {top : Nat} {d' : Array Nat} (h : pop le d = some (top, d')) :
    ∃ a l, d = a.push l ∧ top = d[0]! ∧ d' = if a.size = 0 then a else siftDownToBottom le (a.set! 0 l) := by
  have hd := Array.eq_push_pop_back!_of_size_ne_zero fun h0 => nomatch ((pop_none_iff le d).mpr h0).symm.trans h
  rw [hd, pop_push] at h
  obtain ⟨h1, h2⟩ := Prod.mk.inj (Option.some.inj h)
  exact ⟨_, _, hd, hd ▸ h1.symm, h2.symm⟩

theorem push_set_perm (a : Array Nat) (l : Nat) (h : 0 < a.size) :
    ((a.set! 0 l).push a[0]!).Perm (a.push l) := by
  -- the left side is `a.push l` with its first and its last slot swapped
  have := Array.swap_perm (xs := a.push l) (i := 0) (j := a.size) (by simp) (by simp)
  simpa [Array.swap, h, Array.setIfInBounds_def, Array.set_push, Array.getElem_push_lt] using this

theorem pop_perm {le : Nat → Nat → Bool} {d : Array Nat} {top : Nat} {d' : Array Nat} (h : pop le d = some (top, d')) :
    (d'.push top).Perm d := by
  obtain ⟨a, l, rfl, rfl, rfl⟩ := pop_some h
  split
  · rename_i h0
    rw [Array.eq_empty_of_size_eq_zero h0]
    exact .rfl
  · rename_i h0
    have h0 : 0 < a.size := Nat.pos_of_ne_zero h0
    rw [get!_push_lt l h0]
    exact ((siftDownToBottom_perm le _ ((Array.size_set! ..).symm ▸ h0)).push _).trans (push_set_perm a l h0)

theorem perm_count {a b : Array Nat} (h : a.Perm b) (v : Nat) : a.count v = b.count v := by
  simpa using (Array.perm_iff_toList_perm.mp h).count_eq v

theorem push_count (d : Array Nat) (x : Nat) :
    (push le d x).size = d.size + 1 ∧ ∀ v, (push le d x).count v = d.count v + (if x = v then 1 else 0) := by
  refine ⟨by simpa using (push_perm le d x).size_eq, fun v => ?_⟩
  rw [perm_count (push_perm le d x), Array.count_push]
  simp

theorem pop_count (d : Array Nat) (top : Nat) (d' : Array Nat) (h : pop le d = some (top, d')) :
    d'.size + 1 = d.size ∧ ∀ v, d'.count v + (if top = v then 1 else 0) = d.count v := by
  have hp := pop_perm h
  refine ⟨by simpa using hp.size_eq, fun v => ?_⟩
  rw [← perm_count hp, Array.count_push]
  simp

theorem mem_push {le : Nat → Nat → Bool} {d : Array Nat} {x v : Nat} (h : v ∈ (push le d x).toList) :
    v = x ∨ v ∈ d.toList := by
  simpa [(push_perm le d x).mem_iff, or_comm] using h

theorem mem_pop {le : Nat → Nat → Bool} {d : Array Nat} {top : Nat} {d' : Array Nat} (h : pop le d = some (top, d')) :
    top ∈ d.toList ∧ ∀ v, v ∈ d'.toList → v ∈ d.toList := by
  have hp := fun v => (pop_perm h).mem_iff (a := v)
  simp only [Array.mem_push, Array.mem_toList_iff] at hp ⊢
  exact ⟨(hp top).mp (Or.inr rfl), fun v hv => (hp v).mp (Or.inl hv)⟩
end Gbo.Heap
