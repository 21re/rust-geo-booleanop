import Gbo.Model.Splay
/-
  What `splay` does for EVERY comparator (lawful or not).  It permutes nothing: the in-order sequence of
  (key, value) nodes is preserved; this is the model-level content of "lookups only swap box pointers".  And the
  root it brings up is next to `key` (`splay_closest`): a node is hung on the left only after finding `key` above
  it, on the right only after finding it below, so a root above `key` is preceded by an entry below `key`, if by
  any.  What that says about whole subtrees is a matter of the order, and comes in `SplayBst`.
-/
namespace Gbo.Tree
variable {K V : Type}

/-- in-order content of the pending left nodes, outermost first -/
def inL : LCtx K V → List (K × V)
  | [] => []
  | (l, k, v) :: rest => inL rest ++ inorder l ++ [(k, v)]

/-- in-order content of the pending right nodes, innermost first -/
def inR : RCtx K V → List (K × V)
  | [] => []
  | (k, v, r) :: rest => (k, v) :: inorder r ++ inR rest

theorem inorder_asmL (L : LCtx K V) (t : Tree K V) : inorder (asmL L t) = inL L ++ inorder t := by
  induction L generalizing t with
  | nil => simp [asmL, inL]
  | cons x xs ih =>
    obtain ⟨l, k, v⟩ := x
    simp [asmL, inL, ih, inorder]

theorem inorder_asmR (R : RCtx K V) (t : Tree K V) : inorder (asmR R t) = inorder t ++ inR R := by
  induction R generalizing t with
  | nil => simp [asmR, inR]
  | cons x xs ih =>
    obtain ⟨k, v, r⟩ := x
    simp [asmR, inR, ih, inorder]

/-- what `splay` makes of the loop's result -/
def asm : Tree K V × LCtx K V × RCtx K V → Tree K V
  | (nil, _, _) => nil
  | (node a k v b, L, R) => node (asmL L a) k v (asmR R b)

/- Both loop facts are about `asm (splayLoop ..)`, which is `splay` by unfolding.  The loop is entered and
   re-entered on a node only, so `asm` never meets the `nil` that would drop the pending lists. -/

theorem splayLoop_inorder (cmp : K → K → Ordering) (key : K) (t : Tree K V) (L : LCtx K V) (R : RCtx K V)
    (ht : t ≠ nil) : inorder (asm (splayLoop cmp key t L R)) = inL L ++ inorder t ++ inR R := by
  fun_induction splayLoop cmp key t L R
  case case1 => exact absurd rfl ht
  -- a rotation, or a node moved to a pending list: the same sequence, bracketed differently
  case case2 | case3 | case4 | case7 | case8 =>
    simp only [asm, inorder, inorder_asmL, inorder_asmR, List.append_assoc, List.cons_append, List.nil_append]
  all_goals
    rename_i ih
    exact (ih nofun).trans (by simp only [inorder, inL, inR, List.append_assoc, List.cons_append, List.nil_append])

/-- the root is next to `key`: if it is above `key`, the entry before it is below, and the other way round -/
def Closest (cmp : K → K → Ordering) (key : K) : Tree K V → Prop
  | nil => True
  | node l k _ r => (cmp key k = .lt → ∀ x ∈ (inorder l).getLast?, cmp key x.1 = .gt) ∧
      (cmp key k = .gt → ∀ x ∈ (inorder r).head?, cmp key x.1 = .lt)

theorem splayLoop_closest (cmp : K → K → Ordering) (key : K) (t : Tree K V) (L : LCtx K V) (R : RCtx K V)
    (hL : ∀ x ∈ (inL L).getLast?, cmp key x.1 = .gt) (hR : ∀ x ∈ (inR R).head?, cmp key x.1 = .lt) :
    Closest cmp key (asm (splayLoop cmp key t L R)) := by
  fun_induction splayLoop cmp key t L R
  case case1 => trivial
  case case2 hk => exact ⟨fun h => (nomatch hk ▸ h), fun h => (nomatch hk ▸ h)⟩
  -- the loop stops at a root above `key` only if that has no left child: what precedes it is the pending sequence
  case case3 hk =>
    exact ⟨fun _ => by rwa [inorder_asmL, inorder, List.append_nil], fun h => (nomatch hk ▸ h)⟩
  case case4 hk1 =>
    exact ⟨fun _ => by rwa [inorder_asmL, inorder, List.append_nil], fun h => (nomatch of_decide_eq_true hk1 ▸ h)⟩
  case case7 hk =>
    exact ⟨fun h => (nomatch hk ▸ h), fun _ => by rwa [inorder_asmR, inorder, List.nil_append]⟩
  case case8 hk1 =>
    exact ⟨fun h => (nomatch of_decide_eq_true hk1 ▸ h), fun _ => by rwa [inorder_asmR, inorder, List.nil_append]⟩
  -- after a rotation the node hung is the child `k1` (case5, case9), otherwise the root `k` (case6, case10)
  case case5 hk1 _ _ _ _ ih => exact ih hL fun _ hx => Option.some.inj hx ▸ of_decide_eq_true hk1
  case case6 hk _ _ _ _ _ ih => exact ih hL fun _ hx => Option.some.inj hx ▸ hk
  case case9 hk1 _ _ _ _ ih =>
    exact ih (fun _ hx => Option.some.inj (List.getLast?_concat.symm.trans hx) ▸ of_decide_eq_true hk1) hR
  case case10 hk _ _ _ _ _ ih =>
    exact ih (fun _ hx => Option.some.inj (List.getLast?_concat.symm.trans hx) ▸ hk) hR

theorem splay_inorder (cmp : K → K → Ordering) (key : K) (t : Tree K V) :
    inorder (splay cmp key t) = inorder t := by
  cases t with
  | nil => rfl
  | node a k v b => exact (splayLoop_inorder cmp key (node a k v b) [] [] nofun).trans (List.append_nil _)

theorem splay_closest (cmp : K → K → Ordering) (key : K) (t : Tree K V) : Closest cmp key (splay cmp key t) :=
  splayLoop_closest cmp key t [] [] nofun nofun

theorem splay_nil (cmp : K → K → Ordering) (key : K) : splay cmp key (nil : Tree K V) = nil := rfl

theorem splay_node (cmp : K → K → Ordering) (key : K) (a : Tree K V) (k : K) (v : V) (b : Tree K V) :
    ∃ a' k' v' b', splay cmp key (node a k v b) = node a' k' v' b' := by
  cases hs : splay cmp key (node a k v b) with
  | nil =>
    exact absurd (hs ▸ splay_inorder cmp key (node a k v b)).symm
      (List.append_ne_nil_of_right_ne_nil _ (List.cons_ne_nil _ _))
  | node a' k' v' b' => exact ⟨_, _, _, _, rfl⟩

end Gbo.Tree
