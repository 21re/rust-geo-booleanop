import Gbo.Proofs.Basics
import Gbo.Proofs.SplayWalk
/-
  Operation-by-operation refinement of `SplayTree` to the sorted association list (`Refines`): every keyed operation
  returns what the list operation returns, acts on the in-order sequence as the list operation does, and keeps the
  representation invariant.  `get`, `find_key`, `contains`, `insert`, `remove` start from `splay_cases`; `next` and
  `prev` from the walks of `SplayWalk`.
-/
namespace Gbo
open Tree

variable {K V : Type} {cmp : K → K → Ordering}

def SplayTree.Inv (cmp : K → K → Ordering) (s : SplayTree K V) : Prop :=
  Bst cmp s.root ∧ s.size = (inorder s.root).length

def SplayTree.abs (s : SplayTree K V) : List (K × V) := inorder s.root

namespace Tree

theorem sInsert_length (cmp : K → K → Ordering) (key : K) (val : V) (l : List (K × V)) :
    ((sInsert cmp key val l).1).length = bif (sInsert cmp key val l).2.isSome then l.length else l.length + 1 := by
  fun_induction sInsert cmp key val l with
  | case1 => rfl
  | case2 k v rest hc => rfl
  | case3 k v rest hc => rfl
  | case4 k v rest hc r ih =>
    rw [List.length_cons, ih]
    cases r.2.isSome <;> rfl

theorem sRemove_length (cmp : K → K → Ordering) (key : K) (l : List (K × V)) :
    l.length = ((sRemove cmp key l).1).length + bif (sRemove cmp key l).2.isSome then 1 else 0 := by
  fun_induction sRemove cmp key l with
  | case1 => rfl
  | case2 k v rest hc => rfl
  | case3 k v rest hc => rfl
  | case4 k v rest hc r ih =>
    rw [List.length_cons, ih, Nat.add_right_comm]
    rfl

theorem sRemove_sublist (cmp : K → K → Ordering) (key : K) (l : List (K × V)) :
    List.Sublist (sRemove cmp key l).1 l := by
  fun_induction sRemove cmp key l with
  | case1 => exact .refl _
  | case2 k v rest hc => exact List.sublist_cons_self _ _
  | case3 k v rest hc => exact .refl _
  | case4 k v rest hc r ih => exact ih.cons_cons _

theorem sRemove_sorted (key : K) (l : List (K × V)) (hs : SortedKV cmp l) :
    SortedKV cmp (sRemove cmp key l).1 := List.Pairwise.sublist (sRemove_sublist cmp key l) hs

/-- insertion adds no key but `key` -/
theorem sInsert_forall {key : K} (val : V) {l : List (K × V)} {P : K → Prop}
    (hkey : P key) (hl : ∀ y ∈ l, P y.1) : ∀ y ∈ (sInsert cmp key val l).1, P y.1 := by
  fun_induction sInsert cmp key val l with
  | case1 => exact List.forall_mem_cons.2 ⟨hkey, nofun⟩
  | case2 k v rest hc => exact List.forall_mem_cons.2 (List.forall_mem_cons.1 hl)
  | case3 k v rest hc => exact List.forall_mem_cons.2 ⟨hkey, hl⟩
  | case4 k v rest hc r ih =>
    exact List.forall_mem_cons.2 ⟨(List.forall_mem_cons.1 hl).1, ih (List.forall_mem_cons.1 hl).2⟩

theorem sInsert_sorted (h : LawfulCmp cmp) (key : K) (val : V) (l : List (K × V))
    (hs : SortedKV cmp l) : SortedKV cmp (sInsert cmp key val l).1 := by
  fun_induction sInsert cmp key val l with
  | case1 => exact List.pairwise_singleton ..
  | case2 k v rest hc => exact List.pairwise_cons.2 (List.pairwise_cons.1 hs)
  | case3 k v rest hc =>
    exact List.pairwise_cons.2 ⟨AllGt.cons.2 ⟨hc, allGt_of_lt h hc (List.pairwise_cons.1 hs).1⟩, hs⟩
  | case4 k v rest hc r ih =>
    obtain ⟨hk, hrest⟩ := List.pairwise_cons.1 hs
    exact List.pairwise_cons.2 ⟨sInsert_forall (P := (cmp k · = .lt)) val ((h.gt_iff ..).1 hc) hk, ih hrest⟩

end Tree

namespace SplayTree
open Tree

theorem Inv.of_abs {s : SplayTree K V} {l : List (K × V)} (habs : s.abs = l)
    (hl : SortedKV cmp l) (hsz : s.size = l.length) : s.Inv cmp := by
  subst habs
  exact ⟨hl, hsz⟩

/-- `r`: new state and answer of an operation on a tree; `e`: new list and answer of the reference operation on its
    in-order sequence -/
structure Refines (cmp : K → K → Ordering) {β : Type} (r : SplayTree K V × β) (e : List (K × V) × β) : Prop where
  out : r.2 = e.2
  abs : r.1.abs = e.1
  inv : r.1.Inv cmp

theorem Refines.map {β γ : Type} (f : β → γ) {r : SplayTree K V × β} {e : List (K × V) × β}
    (h : Refines cmp r e) : Refines cmp (r.1, f r.2) (e.1, f e.2) :=
  ⟨congrArg f h.out, h.abs, h.inv⟩

/-- How every keyed operation starts.  The tree is given back as a `node` so that the operation's `match` on its
    root reduces. -/
theorem splay_cases (h : LawfulCmp cmp) (key : K) {t : Tree K V} (hb : Bst cmp t) :
    t = .nil ∨ ∃ a k0 v0 b l k v r, t = .node a k0 v0 b ∧ splay cmp key (.node a k0 v0 b) = .node l k v r
      ∧ AllLt cmp key (inorder l) ∧ AllGt cmp key (inorder r)
      ∧ inorder (.node a k0 v0 b) = inorder l ++ (k, v) :: inorder r ∧ Bst cmp (.node l k v r) := by
  cases t with
  | nil => exact .inl rfl
  | node a k0 v0 b =>
    obtain ⟨l, k, v, r, hs⟩ := splay_node cmp key a k0 v0 b
    obtain ⟨hL, hR, hin, hb'⟩ := splay_split h key _ hb hs
    exact .inr ⟨a, k0, v0, b, l, k, v, r, rfl, hs, hL, hR, hin.symm, hb'⟩

/-- `get` and `find_key` are one lookup: the same new state, and the value or the stored key of the entry found -/
theorem lookup_refines (h : LawfulCmp cmp) (s : SplayTree K V) (key : K) (hi : s.Inv cmp) :
    ∃ r : SplayTree K V × Option (K × V), Refines cmp r (s.abs, sGet cmp key s.abs)
      ∧ s.get cmp key = (r.1, r.2.map (·.2)) ∧ s.findKey cmp key = (r.1, r.2.map (·.1)) := by
  obtain ⟨t, n⟩ := s
  obtain ⟨hb, hn⟩ := hi
  obtain rfl | ⟨a, k0, v0, b, l, k, v, r, rfl, hs, hL, hR, hin, hb'⟩ := splay_cases h key hb
  · exact ⟨(_, none), ⟨rfl, rfl, hb, hn⟩, rfl, rfl⟩
  · refine ⟨(⟨node l k v r, n⟩, if cmp key k == .eq then some (k, v) else none),
      ⟨?_, hin.symm, hb', hn.trans (congrArg _ hin)⟩, ?_, ?_⟩
    · rw [abs, hin, sGet_skip hL, sGet]
      cases cmp key k
      · rfl
      · rfl
      · exact (sGet_allGt hR).symm
    · simp only [get, hs]
      cases cmp key k == .eq <;> rfl
    · simp only [findKey, hs]
      cases cmp key k == .eq <;> rfl

theorem get_refines (h : LawfulCmp cmp) (s : SplayTree K V) (key : K) (hi : s.Inv cmp) :
    Refines cmp (s.get cmp key) (s.abs, (sGet cmp key s.abs).map (·.2)) :=
  have ⟨_, hr, hg, _⟩ := lookup_refines h s key hi
  hg ▸ hr.map _

theorem findKey_refines (h : LawfulCmp cmp) (s : SplayTree K V) (key : K) (hi : s.Inv cmp) :
    Refines cmp (s.findKey cmp key) (s.abs, (sGet cmp key s.abs).map (·.1)) :=
  have ⟨_, hr, _, hf⟩ := lookup_refines h s key hi
  hf ▸ hr.map _

theorem contains_refines (h : LawfulCmp cmp) (s : SplayTree K V) (key : K) (hi : s.Inv cmp) :
    Refines cmp (s.contains cmp key) (s.abs, (sGet cmp key s.abs).isSome) :=
  Option.isSome_map ▸ (findKey_refines h s key hi).map Option.isSome

theorem insert_refines (h : LawfulCmp cmp) (s : SplayTree K V) (key : K) (val : V) (hi : s.Inv cmp) :
    Refines cmp (s.insert cmp key val) (sInsert cmp key val s.abs) := by
  suffices hk : (s.insert cmp key val).2 = (sInsert cmp key val s.abs).2
      ∧ (s.insert cmp key val).1.abs = (sInsert cmp key val s.abs).1
      ∧ (s.insert cmp key val).1.size = bif (sInsert cmp key val s.abs).2.isSome then s.size else s.size + 1 from
    ⟨hk.1, hk.2.1, .of_abs hk.2.1 (sInsert_sorted h key val _ hi.1) (by rw [hk.2.2, sInsert_length, hi.2]; rfl)⟩
  obtain ⟨t, n⟩ := s
  obtain rfl | ⟨a, k0, v0, b, l, k, v, r, rfl, hs, hL, hR, hin, -⟩ := splay_cases h key hi.1
  · exact ⟨rfl, rfl, rfl⟩
  · -- the list operation passes over `inorder l` and meets the root's entry, where it does what the tree does
    simp only [insert, hs, abs, hin, sInsert_skip hL, sInsert]
    cases cmp key k
    · exact ⟨rfl, rfl, rfl⟩
    · exact ⟨rfl, rfl, rfl⟩
    · rw [sInsert_allGt hR]
      exact ⟨rfl, (List.append_assoc ..).trans (congrArg _ (List.nil_append _)), rfl⟩

theorem eq_nil_of_allGt_of_allLt {key : K} {l : List (K × V)}
    (hg : AllGt cmp key l) (hl : AllLt cmp key l) : l = [] := by
  cases l with
  | nil => rfl
  | cons x xs => cases (hg x List.mem_cons_self).symm.trans (hl x List.mem_cons_self)

theorem remove_refines (h : LawfulCmp cmp) (s : SplayTree K V) (key : K) (hi : s.Inv cmp) :
    Refines cmp (s.remove cmp key) (sRemove cmp key s.abs) := by
  suffices hk : (s.remove cmp key).2 = (sRemove cmp key s.abs).2
      ∧ (s.remove cmp key).1.abs = (sRemove cmp key s.abs).1
      ∧ (s.remove cmp key).1.size = bif (sRemove cmp key s.abs).2.isSome then s.size - 1 else s.size from
    ⟨hk.1, hk.2.1, .of_abs hk.2.1 (sRemove_sorted key _ hi.1) (by
      rw [hk.2.2, hi.2, show (inorder s.root).length = _ from sRemove_length cmp key s.abs]
      cases (sRemove cmp key s.abs).2.isSome <;> rfl)⟩
  obtain ⟨t, n⟩ := s
  obtain rfl | ⟨a, k0, v0, b, l, k, v, r, rfl, hs, hL, hR, hin, hb'⟩ := splay_cases h key hi.1
  · exact ⟨rfl, rfl, rfl⟩
  · simp only [remove, hs, abs, hin, sRemove_skip hL, sRemove]
    cases cmp key k
    · exact ⟨rfl, rfl, rfl⟩
    · refine ⟨rfl, ?_, rfl⟩
      simp only [bne_self_eq_false, Bool.false_eq_true, if_false]
      -- the root is removed; a second splay brings up the largest key of the left subtree, which has no right child
      obtain rfl | ⟨la, lk, lv, lb, l2, k2, v2, r2, rfl, hs2, -, hR2, hin2, -⟩ :=
        splay_cases h key ((bst_node_iff ..).1 hb').1
      · rfl
      · have hr2 : inorder r2 = [] := eq_nil_of_allGt_of_allLt hR2 fun y hy => hL y (hin2 ▸ by simp [hy])
        rw [hin2, hr2]
        simp only [hs2, inorder, List.append_assoc, List.cons_append, List.nil_append]
    · rw [sRemove_allGt hR]
      exact ⟨rfl, rfl, rfl⟩

theorem Inv.splay {t : Tree K V} {n : Nat} (key : K) (hi : Inv cmp ⟨t, n⟩) :
    Inv cmp ⟨Tree.splay cmp key t, n⟩ :=
  .of_abs (splay_inorder cmp key t) hi.1 hi.2

theorem next_refines (h : LawfulCmp cmp) (s : SplayTree K V) (key : K) (hi : s.Inv cmp) :
    Refines cmp (s.next cmp key) (s.abs, sNext cmp key s.abs) := by
  obtain ⟨t, n⟩ := s
  cases t with
  | nil => exact ⟨rfl, rfl, hi⟩
  | node a k0 v0 b =>
    refine ⟨?_, splay_inorder cmp key _, hi.splay key⟩
    exact (succWalk_spec h key _ (hi.splay key).1 none).trans (by rw [splay_inorder, Option.or_none]; rfl)

theorem prev_refines (h : LawfulCmp cmp) (s : SplayTree K V) (key : K) (hi : s.Inv cmp) :
    Refines cmp (s.prev cmp key) (s.abs, sPrev cmp key s.abs) := by
  obtain ⟨t, n⟩ := s
  cases t with
  | nil => exact ⟨rfl, rfl, hi⟩
  | node a k0 v0 b =>
    refine ⟨?_, splay_inorder cmp key _, hi.splay key⟩
    exact (predWalk_spec h key _ (hi.splay key).1 none).trans (by rw [splay_inorder, Option.or_none]; rfl)

theorem extend_refines (h : LawfulCmp cmp) (kvs : List (K × V)) (s : SplayTree K V)
    (hi : s.Inv cmp) :
    Refines cmp (s.extend cmp kvs, ()) (kvs.foldl (fun l kv => (sInsert cmp kv.1 kv.2 l).1) s.abs, ()) :=
  List.foldl_rel (r := fun (s : SplayTree K V) l => Refines cmp (s, ()) (l, ())) ⟨rfl, rfl, hi⟩
    fun kv _ s l hs => have hr := insert_refines h s kv.1 kv.2 hs.inv
      (show s.abs = l from hs.abs) ▸ ⟨rfl, hr.abs, hr.inv⟩

end SplayTree
end Gbo
