import Gbo.Spec.Region
/-
  `parity` (the crossing-number rule's "odd number of `true`") as a function of the list: the few equations
  everything about memberships is computed with.
-/
namespace Gbo.Props
open Gbo.Spec

theorem parity_nil : parity [] = false := rfl

end Gbo.Props

namespace Gbo.Spec
open Gbo.Props

theorem parity_cons (b : Bool) (l : List Bool) : parity (b :: l) = (b != parity l) := by
  unfold parity
  rw [List.foldl_cons, Bool.false_bne, ← Bool.bne_false b, List.foldl_assoc, Bool.bne_false]

theorem parity_append (l m : List Bool) : parity (l ++ m) = (parity l != parity m) := by
  induction l with
  | nil => simp [parity_nil]
  | cons x xs ih =>
    simp only [List.cons_append, parity_cons, ih]
    cases x <;> cases parity xs <;> cases parity m <;> rfl

theorem parity_flatMap {α} (l : List α) (g : α → List Bool) :
    parity (l.flatMap g) = parity (l.map (fun x => parity (g x))) := by
  induction l with
  | nil => rfl
  | cons x xs ih => rw [List.flatMap_cons, parity_append, ih, List.map_cons, parity_cons]

theorem parity_perm {l m : List Bool} (h : List.Perm l m) : parity l = parity m :=
  h.foldl_eq' (fun x _ y _ z => by cases x <;> cases y <;> cases z <;> rfl) false

theorem parity_all_false' (l : List Bool) (h : ∀ b ∈ l, b = false) : parity l = false := by
  induction l with
  | nil => rfl
  | cons x xs ih =>
    rw [parity_cons, ih (fun y hy => h y (List.mem_cons_of_mem _ hy)), h x (List.mem_cons_self)]
    rfl

theorem parity_map_false {α} (l : List α) (F : α → Bool) (h : ∀ x ∈ l, F x = false) : parity (l.map F) = false :=
  parity_all_false' _ (List.forall_mem_map.2 h)

theorem parity_all_false_map {α} (l : List α) : parity (l.map (fun _ => false)) = false :=
  parity_map_false l _ fun _ _ => rfl

theorem parity_map_single {α} (l : List α) (F : α → Bool) (i : α) (hnd : l.Nodup) (hi : i ∈ l)
    (h0 : ∀ j ∈ l, j ≠ i → F j = false) : parity (l.map F) = F i := by
  induction l with
  | nil => cases hi
  | cons a l ih =>
    rw [List.map_cons, parity_cons]
    obtain ⟨ha, hnd⟩ := List.nodup_cons.1 hnd
    rcases List.mem_cons.1 hi with rfl | hi
    · rw [parity_map_false l F fun j hj => h0 j (List.mem_cons_of_mem _ hj) fun e => ha (e ▸ hj), Bool.bne_false]
    · rw [h0 a List.mem_cons_self fun e => ha (e ▸ hi), Bool.false_bne]
      exact ih hnd hi fun j hj => h0 j (List.mem_cons_of_mem _ hj)

end Gbo.Spec
