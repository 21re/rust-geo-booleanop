import Gbo.Proofs.Sim
/-
  The coordinate type enters the run in exactly two places: the intersection routine and the one-ulp step of
  `divide_segment`.  Two arithmetics that agree on these give the same sweep, hence
  (Props/C10) the same run.
-/
namespace Gbo

structure SameArith (ar1 ar2 : Arith) : Prop where
  isect : ∀ a1 a2 b1 b2 : Pt, ar1.isect a1 a2 b1 b2 = ar2.isect a1 a2 b1 b2
  nextUp : ∀ x : Rat, ar1.nextUp x = ar2.nextUp x

variable {ar1 ar2 : Arith}

theorem compareSegCore_frame (h : SameArith ar1 ar2) (dbg : Bool) (li : Bool → Ordering) (old new : SegView) :
    compareSegCore ar1 dbg li old new = compareSegCore ar2 dbg li old new := by
  unfold compareSegCore
  simp only [h.isect]

theorem segCmp_frame (h : SameArith ar1 ar2) (dbg : Bool) (a : Arena) : segCmp ar1 dbg a = segCmp ar2 dbg a := by
  funext i j
  unfold segCmp compareSegView
  simp only [compareSegCore_frame h]

theorem divideSegment_frame (h : SameArith ar1 ar2) (cfg : Cfg) (st : SwSt) (seL : Nat) (p : Pt) :
    divideSegment ar1 cfg st seL p = divideSegment ar2 cfg st seL p := by
  simp only [divideSegment_eq, divided, bumped, h.nextUp]

theorem overlapBranch_frame (h : SameArith ar1 ar2) (cfg : Cfg) (st : SwSt) (se1 o1 se2 o2 : Nat) :
    overlapBranch ar1 cfg st se1 o1 se2 o2 = overlapBranch ar2 cfg st se1 o1 se2 o2 := by
  simp only [overlapBranch_eq, optDivide, divideSegment_frame h]

theorem possibleIntersection_frame (h : SameArith ar1 ar2) (cfg : Cfg) (st : SwSt) (se1 se2 : Nat) :
    possibleIntersection ar1 cfg st se1 se2 = possibleIntersection ar2 cfg st se1 se2 := by
  simp only [possibleIntersection_eq, optDivide, h.isect, divideSegment_frame h, overlapBranch_frame h]

theorem frame_arenaSim (h : SameArith ar1 ar2) (op : Op) : ArenaSim ar1 ar2 op op Eq where
  left ha i := ha ▸ rfl
  other ha i := ha ▸ rfl
  evLe ha := ha ▸ rfl
  segCmp ha dbg := ha ▸ segCmp_frame h dbg _
  fields ha := ha ▸ rfl
  pi := by
    rintro _ _ _ _ _ ⟨rfl⟩
    exact .of_eq (possibleIntersection_frame h _ _ _ _) fun _ => ⟨rfl, ⟨rfl⟩⟩

theorem subdivide_frame (h : SameArith ar1 ar2) (cfg : Cfg) (fq : FQ) (sb cb : BBox) (op : Op) :
    subdivide ar1 cfg fq sb cb op = subdivide ar2 cfg fq sb cb op := by
  refine (subdivide_sim (frame_arenaSim h op) rfl rfl ?_).eq ?_
  · exact fun ha i => ha ▸ rfl
  · rintro o o' ⟨ha, ho⟩
    rw [ho, ← ha]

end Gbo
