import Gbo.Proofs.Basics
import Gbo.Proofs.Transform
import Gbo.Proofs.Step
/-
  Event transformations the sweep cannot observe.  `RunMap ar f ..`: a map of the plane that preserves the coordinate
  order and the orientation sign and that the arithmetic commutes with.  `evMap f u v` moves every point by such an
  `f` and recodes the two fields only `compute_fields` reads (`result_transition`, `prev_in_result`); both orders,
  `divide_segment` and `possible_intersection` commute with it.  Instances: `mapArena f` (u = v = id, MapRun) and
  `stripResult` (f = id, constant recodings, Strip).
-/
namespace Gbo

/-- an event map the event order cannot observe: it moves the point by an order-preserving `f`, keeps what else
    `Arena.view` reads and fixes the default event (the model reads `a[i]!`, which is `default` outside the array) -/
structure ViewMap (f : Pt → Pt) (φ : Ev → Ev) : Prop where
  op : OrderPreserving f
  default : φ default = default
  point : ∀ e, (φ e).point = f e.point
  left : ∀ e, (φ e).left = e.left
  other : ∀ e, (φ e).other = e.other
  isSubject : ∀ e, (φ e).isSubject = e.isSubject

section
variable {f : Pt → Pt} {φ : Ev → Ev} (h : ViewMap f φ)
include h

theorem ViewMap.get (a : Arena) (i : Nat) : (a.map φ)[i]! = φ a[i]! := get!_map φ h.default a i

theorem ViewMap.view (a : Arena) (i : Nat) : Arena.view (a.map φ) i = mapView f (a.view i) := by
  simp only [Arena.view, mapView, h.get, h.point, h.left, h.other, h.isSubject, Option.map_map]
  rfl

theorem ViewMap.cmpEv_eq (a : Arena) (i j : Nat) : cmpEv (a.map φ) i j = cmpEv a i j := by
  rw [cmpEv, h.view, h.view]
  exact cmpView_map f h.op _ _

theorem ViewMap.evLe_eq (a : Arena) : evLe (a.map φ) = evLe a := by
  funext i j
  rw [evLe, evLe, h.cmpEv_eq]

theorem ViewMap.isBefore_eq (a : Arena) (i j : Nat) : isBefore (a.map φ) i j = isBefore a i j := by
  rw [isBefore, isBefore, h.cmpEv_eq]

end

structure RunMap (ar : Arith) (f : Pt → Pt) (gx gy : Rat → Rat) : Prop where
  /-- `f` acts on each coordinate separately: the bounding boxes hold coordinates, not points, and are mapped by
      `gx`, `gy` -/
  sep : ∀ p : Pt, f p = { x := gx p.x, y := gy p.y }
  op : OrderPreserving f
  inj : ∀ p q, f p = f q ↔ p = q
  /-- the model reads `a[i]!`, which is `default` (the origin) outside the array: a map that moves the origin would
      change such reads -/
  zero : f default = default
  isect : ∀ a1 a2 b1 b2, ar.isect (f a1) (f a2) (f b1) (f b2) = mapIsect f (ar.isect a1 a2 b1 b2)
  bump : ∀ p : Pt, f { p with x := ar.nextUp p.x } = { f p with x := ar.nextUp (f p).x }

variable {ar : Arith} {f : Pt → Pt} {gx gy : Rat → Rat}

theorem RunMap.yeq (h : RunMap ar f gx gy) (p q : Pt) : (f p).y = (f q).y ↔ p.y = q.y := h.op.yeq p q

theorem RunMap.ordX (h : RunMap ar f gx gy) : OrdEmb gx :=
  ⟨fun a b => by simpa [h.sep] using h.op.xlt { x := a, y := 0 } { x := b, y := 0 }⟩

theorem RunMap.ordY (h : RunMap ar f gx gy) : OrdEmb gy :=
  ⟨fun a b => by simpa [h.sep] using h.op.ylt { x := 0, y := a } { x := 0, y := b }⟩

def mapSeg (f : Pt → Pt) (s : SegView) : SegView :=
  { id := s.id, l := mapView f s.l, r := s.r.map (mapView f), contourId := s.contourId }

theorem compareSegCore_map (h : RunMap ar f gx gy) (dbg : Bool) (li : Bool → Ordering) (old new : SegView) :
    compareSegCore ar dbg li (mapSeg f old) (mapSeg f new) = compareSegCore ar dbg li old new := by
  unfold compareSegCore mapSeg
  cases old.r with
  | none => rfl
  | some oldR =>
    cases new.r with
    | none => rfl
    | some newR =>
      simp only [Option.map_some, mapView_point, mapView_isSubject, h.inj, h.op.xeq, h.op.ylt, isBelow_map h.op,
        h.isect, h.op.opos, h.op.ozero, ne_eq, gt_iff_lt]
      cases ar.isect old.l.point oldR.point new.l.point newR.point with
      | point q => simp only [mapIsect, h.inj]
      | _ => rfl

theorem compareSegView_map (h : RunMap ar f gx gy) (dbg : Bool) (s1 s2 : SegView) :
    compareSegView ar dbg (mapSeg f s1) (mapSeg f s2) = compareSegView ar dbg s1 s2 := by
  unfold compareSegView
  rw [compareSegCore_map h, compareSegCore_map h]
  simp only [mapSeg, mapView_left, cmpView_map f h.op, Option.isNone_map]

def evMap (f : Pt → Pt) (u : ResTrans → ResTrans) (v : Option Nat → Option Nat) (e : Ev) : Ev :=
  { e with point := f e.point, resTrans := u e.resTrans, prevInResult := v e.prevInResult }

def swMap (φ : Ev → Ev) (st : SwSt) : SwSt := { st with arena := st.arena.map φ }

def resMap (φ : Ev → Ev) (r : Nat × SwSt) : Nat × SwSt := (r.1, swMap φ r.2)

/-- `f` is a `RunMap` and the recodings fix the values a fresh event carries -/
structure SweepMap (ar : Arith) (f : Pt → Pt) (gx gy : Rat → Rat) (u : ResTrans → ResTrans)
    (v : Option Nat → Option Nat) : Prop where
  run : RunMap ar f gx gy
  res : u .none = .none
  prev : v none = none

theorem RunMap.sweep (h : RunMap ar f gx gy) : SweepMap ar f gx gy id id := ⟨h, rfl, rfl⟩

variable {u : ResTrans → ResTrans} {v : Option Nat → Option Nat}

theorem SweepMap.vm (h : SweepMap ar f gx gy u v) : ViewMap f (evMap f u v) where
  op := h.run.op
  default := by
    have e : evMap f u v default = { (default : Ev) with point := f default, resTrans := u .none, prevInResult := v none } := rfl
    rw [e, h.run.zero, h.res, h.prev]
    rfl
  point _ := rfl
  left _ := rfl
  other _ := rfl
  isSubject _ := rfl

theorem segView_evMap (h : SweepMap ar f gx gy u v) (a : Arena) (i : Nat) :
    Arena.segView (a.map (evMap f u v)) i = mapSeg f (a.segView i) := by
  unfold Arena.segView mapSeg
  simp only [h.vm.view, h.vm.get, evMap, Option.map_map]
  rfl

theorem segCmp_evMap (h : SweepMap ar f gx gy u v) (dbg : Bool) (a : Arena) :
    segCmp ar dbg (a.map (evMap f u v)) = segCmp ar dbg a := by
  funext i j
  unfold segCmp
  rw [segView_evMap h, segView_evMap h, compareSegView_map h.run]

theorem modify_left_evMap (a : Arena) (i : Nat) (l : Bool) :
    (a.modify i fun ev => { ev with left := l }).map (evMap f u v) = (a.map (evMap f u v)).modify i fun ev => { ev with left := l } :=
  map_modify a i fun _ => rfl
theorem modify_other_evMap (a : Arena) (i : Nat) (o : Option Nat) :
    (a.modify i fun ev => { ev with other := o }).map (evMap f u v) = (a.map (evMap f u v)).modify i fun ev => { ev with other := o } :=
  map_modify a i fun _ => rfl
theorem modify_edgeType_evMap (a : Arena) (i : Nat) (t : EdgeType) :
    (a.modify i fun ev => { ev with edgeType := t }).map (evMap f u v) = (a.map (evMap f u v)).modify i fun ev => { ev with edgeType := t } :=
  map_modify a i fun _ => rfl

theorem dividePush_evMap (h : SweepMap ar f gx gy u v) (a : Arena) (seL seR : Nat) (p : Pt) :
    dividePush (a.map (evMap f u v)) seL seR (f p) = (dividePush a seL seR p).map (evMap f u v) := by
  unfold dividePush
  simp only [Array.map_push, h.vm.get, evMap, h.res, h.prev]

theorem divideArena_evMap (h : SweepMap ar f gx gy u v) (a : Arena) (seL seR : Nat) (p : Pt) :
    divideArena (a.map (evMap f u v)) seL seR (f p) = (divideArena a seL seR p).map (evMap f u v) := by
  simp only [divideArena, Array.size_map, dividePush_evMap h, h.vm.isBefore_eq, modify_left_evMap, modify_other_evMap,
    apply_ite (Array.map (evMap f u v))]

theorem swMap_arena (φ : Ev → Ev) (st : SwSt) : (swMap φ st).arena = st.arena.map φ := rfl

theorem bumped_evMap (h : SweepMap ar f gx gy u v) (a : Arena) (seL : Nat) (p : Pt) :
    bumped ar (a.map (evMap f u v)) seL (f p) = f (bumped ar a seL p) := by
  unfold bumped
  simp only [h.vm.get, evMap, h.run.op.xeq, h.run.op.ylt]
  split
  · exact (h.run.bump p).symm
  · rfl

theorem divided_evMap (h : SweepMap ar f gx gy u v) (st : SwSt) (seL seR : Nat) (p : Pt) :
    divided ar (swMap (evMap f u v) st) seL seR (f p) = swMap (evMap f u v) (divided ar st seL seR p) := by
  unfold divided
  -- closed by `simp` down to syntactic equality: a closing `rfl` would try `divideArena .. =?= ..` by unfolding
  simp only [swMap, bumped_evMap h, h.vm.get, Array.size_map, evMap, divideArena_evMap h, h.vm.evLe_eq, h.run.op.xeq,
    h.run.op.ylt]

theorem divideSegment_evMap (h : SweepMap ar f gx gy u v) (cfg : Cfg) (st : SwSt) (seL : Nat) (p : Pt) :
    divideSegment ar cfg (swMap (evMap f u v) st) seL (f p) = exMap (swMap (evMap f u v)) (divideSegment ar cfg st seL p) := by
  rw [divideSegment_eq, divideSegment_eq, exMap_ite]
  simp only [swMap_arena, bumped_evMap h, h.vm.get, evMap, dividePush_evMap h, h.vm.isBefore_eq, divided_evMap h,
    Array.size_map]
  refine ite_congr rfl (fun _ => rfl) fun _ => ?_
  cases st.arena[seL]!.other with
  | none => rfl
  | some seR =>
    rw [exMap_ite]
    rfl

theorem overlapEvents_evMap (h : SweepMap ar f gx gy u v) (a : Arena) (se1 o1 se2 o2 : Nat) :
    overlapEvents (a.map (evMap f u v)) se1 o1 se2 o2 = overlapEvents a se1 o1 se2 o2 := by
  unfold overlapEvents
  simp only [h.vm.get, h.vm.cmpEv_eq, evMap, h.run.inj]

theorem markCoincident_evMap (h : SweepMap ar f gx gy u v) (a : Arena) (se1 se2 : Nat) :
    markCoincident (a.map (evMap f u v)) se1 se2 = (markCoincident a se1 se2).map (evMap f u v) := by
  simp only [markCoincident, ← modify_edgeType_evMap, h.vm.get, evMap]

theorem swMap_with_arena (φ : Ev → Ev) (st : SwSt) (a : Arena) :
    ({ swMap φ st with arena := a.map φ } : SwSt) = swMap φ { st with arena := a } := rfl

theorem optDivide_evMap (h : SweepMap ar f gx gy u v) (cfg : Cfg) (c : Prop) [Decidable c] (st : SwSt) (i : Nat) (p : Pt) :
    optDivide ar cfg c (swMap (evMap f u v) st) i (f p) = exMap (swMap (evMap f u v)) (optDivide ar cfg c st i p) := by
  rw [optDivide, optDivide, exMap_ite, divideSegment_evMap h]
  rfl

theorem overlapBranch_evMap (h : SweepMap ar f gx gy u v) (cfg : Cfg) (st : SwSt) (se1 o1 se2 o2 : Nat) :
    overlapBranch ar cfg (swMap (evMap f u v) st) se1 o1 se2 o2
      = exMap (resMap (evMap f u v)) (overlapBranch ar cfg st se1 o1 se2 o2) := by
  rw [overlapBranch_eq, overlapBranch_eq]
  -- reads are invariant; then the functor laws move `exMap` to the leaves on both sides
  simp only [swMap_arena, overlapEvents_evMap h, h.vm.get, markCoincident_evMap h, evMap, h.run.inj,
    swMap_with_arena, divideSegment_evMap h, optDivide_evMap h, exMap_eq_map, map_bind, bind_map_left, map_pure,
    apply_ite (Functor.map (resMap (evMap f u v))), resMap]
  -- what is left differs in the fifth branch only, behind its first `divide_segment`, where the map still has to
  -- pass a `match` (`split` would run `simp` over this whole goal at each of its four calls)
  refine ite_congr rfl (fun _ => rfl) fun _ => ite_congr rfl (fun _ => rfl) fun _ => ite_congr rfl (fun _ => rfl) fun _ =>
    ite_congr rfl (fun _ => rfl) fun _ => bind_congr fun st1 => ?_
  cases st1.arena[(overlapEvents st.arena se1 o1 se2 o2)[3]!.1]!.other with
  | none => rfl
  | some o => simp only [map_bind, map_pure, resMap]

theorem possibleIntersection_evMap (h : SweepMap ar f gx gy u v) (cfg : Cfg) (st : SwSt) (se1 se2 : Nat) :
    possibleIntersection ar cfg (swMap (evMap f u v) st) se1 se2
      = exMap (resMap (evMap f u v)) (possibleIntersection ar cfg st se1 se2) := by
  rw [possibleIntersection_eq, possibleIntersection_eq]
  simp only [swMap_arena, h.vm.get, evMap, h.run.isect]
  cases st.arena[se1]!.other with
  | none => rfl
  | some o1 =>
    cases st.arena[se2]!.other with
    | none => rfl
    | some o2 =>
      dsimp only
      cases ar.isect st.arena[se1]!.point st.arena[o1]!.point st.arena[se2]!.point st.arena[o2]!.point with
      | nonfinite => rfl
      | none => rfl
      | overlap p q => exact overlapBranch_evMap h cfg st se1 o1 se2 o2
      | point inter =>
        simp only [mapIsect, ne_eq, h.run.inj, optDivide_evMap h, exMap_eq_map, map_bind, bind_map_left, map_pure,
          apply_ite (Functor.map (resMap (evMap f u v))), resMap]

end Gbo
