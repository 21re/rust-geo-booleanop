import Gbo.Proofs.Sim
import Gbo.Proofs.EvMap
/-
  The four sweeps of one operand pair build the same subdivision (C05).  `stripResult` forgets the two fields of
  an event that the operation decides (`result_transition`, `prev_in_result`).  `compute_fields` under any two
  operations keeps stripped arenas equal; below it forgetting is an event transformation the sweep cannot observe
  (`evMap id (fun _ => .none) (fun _ => none)`); so states that differ only in those fields (`sSw st = sSw st'`)
  stay so through one iteration, the loop and `subdivide`, and every sweep is the `Union` sweep cut off at its own
  exit test (`sweepLoopCut`).
-/
namespace Gbo

/-- forget the two fields of an event that `compute_fields` derives from the operation -/
def stripResult (e : Ev) : Ev := { e with resTrans := .none, prevInResult := none }

-- `s` for stripped: of an arena, a sweep state, a result of `possible_intersection`, an output of `subdivide`
def sA (a : Arena) : Arena := a.map stripResult
def sSw (st : SwSt) : SwSt := { st with arena := sA st.arena }
def sRes (r : Nat × SwSt) : Nat × SwSt := (r.1, sSw r.2)
def sOut (o : SweepOut) : SweepOut := { o with arena := sA o.arena }

-- `stripResult`, `sSw`, `sRes` are the instance `evMap id (fun _ => .none) (fun _ => none)` of EvMap.lean (`swMap`,
-- `resMap`), by `rfl`; the lemmas below instantiate the `*_evMap` lemmas on that ground

theorem viewMap_strip : ViewMap id stripResult := ⟨id_orderPreserving, rfl, fun _ => rfl, fun _ => rfl, fun _ => rfl, fun _ => rfl⟩

theorem runMap_id (ar : Arith) : RunMap ar id id id where
  sep _ := rfl
  op := id_orderPreserving
  inj _ _ := Iff.rfl
  zero := rfl
  isect _ _ _ _ := (mapIsect_id _).symm
  bump _ := rfl

theorem sweepMap_strip (ar : Arith) : SweepMap ar id id id (fun _ => .none) (fun _ => none) := ⟨runMap_id ar, rfl, rfl⟩

theorem stripResult_update (e : Ev) (io oio : Bool) (pir : Option Nat) (rt : ResTrans) :
    stripResult { e with inOut := io, otherInOut := oio, prevInResult := pir, resTrans := rt }
      = { stripResult e with inOut := io, otherInOut := oio } := rfl

theorem stripResult_idem (e : Ev) : stripResult (stripResult e) = stripResult e := rfl
theorem sA_idem (a : Arena) : sA (sA a) = sA a := by
  simp only [sA, Array.map_map]
  congr 1
theorem sSw_idem (st : SwSt) : sSw (sSw st) = sSw st := by
  simp only [sSw, sA_idem]

theorem sSw_arena (st : SwSt) : (sSw st).arena = sA st.arena := rfl
theorem sA_get (a : Arena) (i : Nat) : (sA a)[i]! = stripResult a[i]! := viewMap_strip.get a i
theorem sA_view (a : Arena) (i : Nat) : (sA a).view i = a.view i := (viewMap_strip.view a i).trans (mapView_id _)

theorem size_eq_of_sA_eq {a a' : Arena} (h : sA a = sA a') : a.size = a'.size :=
  apply_of_map_eq Array.size (fun _ => Array.size_map) h

theorem evLe_rel {a a' : Arena} (h : sA a = sA a') : evLe a = evLe a' :=
  apply_of_map_eq evLe viewMap_strip.evLe_eq h

theorem segCmp_rel (ar : Arith) (dbg : Bool) {a a' : Arena} (h : sA a = sA a') : segCmp ar dbg a = segCmp ar dbg a' :=
  apply_of_map_eq (segCmp ar dbg) (segCmp_evMap (sweepMap_strip ar) dbg) h

/-- a field of an event that forgetting keeps reads the same in two arenas that are equal once stripped -/
theorem field_rel {α : Type} (π : Ev → α) {a a' : Arena} (h : sA a = sA a') (i : Nat) (hπ : ∀ e, π (stripResult e) = π e) :
    π a[i]! = π a'[i]! :=
  apply_of_map_eq (π ·[i]!) (fun a => (congrArg π (sA_get a i)).trans (hπ _)) h

/-- the in/out flags `compute_fields` assigns, as a function of what it reads -/
def cfFlags (a : Arena) (event : Nat) (prev : Option Nat) : Bool × Bool :=
  propagateFlags a[event]!.isSubject
    (prev.map (fun p => (a[p]!.isSubject, a[p]!.inOut, a[p]!.otherInOut, (a.view p).isVertical)))

theorem cfFlags_sA (a : Arena) (event : Nat) (prev : Option Nat) : cfFlags (sA a) event prev = cfFlags a event prev := by
  simp only [cfFlags, sA_get, sA_view, stripResult]

/-- what is left of `compute_fields` when the two fields are forgotten: the in/out flags, the same for every operation -/
theorem sA_computeFields (a : Arena) (event : Nat) (prev : Option Nat) (op : Op) :
    sA (computeFields a event prev op) = (sA a).modify event fun ev =>
      { ev with inOut := (cfFlags a event prev).1, otherInOut := (cfFlags a event prev).2 } :=
  map_modify a event fun e => stripResult_update e _ _ _ _

theorem computeFields_rel {a a' : Arena} (h : sA a = sA a') (event : Nat) (prev : Option Nat) (op op' : Op) :
    sA (computeFields a event prev op) = sA (computeFields a' event prev op') := by
  rw [sA_computeFields, sA_computeFields, h, apply_of_map_eq (cfFlags · event prev) (cfFlags_sA · event prev) h]

theorem possibleIntersection_rel (ar : Arith) (cfg : Cfg) {st st' : SwSt} (h : sSw st = sSw st') (se1 se2 : Nat) :
    exMap sRes (possibleIntersection ar cfg st se1 se2) = exMap sRes (possibleIntersection ar cfg st' se1 se2) := by
  have e := fun s => possibleIntersection_evMap (sweepMap_strip ar) cfg s se1 se2
  exact (e st).symm.trans ((congrArg (possibleIntersection ar cfg · se1 se2) h).trans (e st'))

theorem exMap_bind_rel {α β γ δ : Type} (g : α → γ) (g' : β → δ) (x x' : Except Fail α) (k k' : α → Except Fail β)
    (hx : exMap g x = exMap g x') (hk : ∀ a a', g a = g a' → exMap g' (k a) = exMap g' (k' a')) :
    exMap g' (x >>= k) = exMap g' (x' >>= k') :=
  ((ExRel.of_exMap_eq hx).bind fun a a' h => ExRel.of_exMap_eq (hk a a' h)).exMap_eq fun _ _ h => h

theorem swRel_of_sSw_eq {st st' : SwSt} (h : sSw st = sSw st') : SwRel (fun a a' => sA a = sA a') st st' := by
  obtain ⟨a, hp, l, s, p, b⟩ := st
  obtain ⟨a', hp', l', s', p', b'⟩ := st'
  injection h with ha hh hl hs hp hb
  subst hh hl hs hp hb
  exact ⟨ha⟩

theorem sSw_eq_of_swRel {st st' : SwSt} (h : SwRel (fun a a' => sA a = sA a') st st') : sSw st = sSw st' := by
  obtain ⟨ha⟩ := h
  simp only [sSw, ha]

theorem strip_arenaSim (ar : Arith) (op op' : Op) : ArenaSim ar ar op op' (fun a a' => sA a = sA a') where
  left ha i := field_rel Ev.left ha i fun _ => rfl
  other ha i := field_rel Ev.other ha i fun _ => rfl
  evLe := evLe_rel
  segCmp ha dbg := segCmp_rel ar dbg ha
  fields ha := computeFields_rel ha _ _ op op'
  pi h := (ExRel.of_exMap_eq (possibleIntersection_rel ar _ (sSw_eq_of_swRel h) _ _)).mono
    fun _ _ hr => ⟨(congrArg Prod.fst hr :), swRel_of_sSw_eq (congrArg Prod.snd hr)⟩

theorem sweepStep_rel_of_exit_eq (ar : Arith) (cfg : Cfg) {op op' : Op} {rb sx rb' sx' : Rat}
    {st st' : SwSt} (h : sSw st = sSw st') (event : Nat)
    (hx : exitsAt op rb sx st.arena[event]!.point = exitsAt op' rb' sx' st'.arena[event]!.point) :
    exMap (fun r : Bool × SwSt => (r.1, sSw r.2)) (sweepStep ar cfg op rb sx st event)
      = exMap (fun r : Bool × SwSt => (r.1, sSw r.2)) (sweepStep ar cfg op' rb' sx' st' event) :=
  (sweepStep_sim (strip_arenaSim ar op op') (swRel_of_sSw_eq h) hx).exMap_eq
    fun _ _ hr => Prod.ext hr.1 (sSw_eq_of_swRel hr.2)

theorem sweepStep_rel (ar : Arith) (cfg : Cfg) (op op' : Op) (ho : noExit op) (ho' : noExit op') (rb sx : Rat)
    {st st' : SwSt} (h : sSw st = sSw st') (event : Nat) :
    exMap (fun r : Bool × SwSt => (r.1, sSw r.2)) (sweepStep ar cfg op rb sx st event)
      = exMap (fun r : Bool × SwSt => (r.1, sSw r.2)) (sweepStep ar cfg op' rb sx st' event) :=
  sweepStep_rel_of_exit_eq ar cfg h event (exitsAt_eq_of_noExit ho ho')

theorem sweepLoop_rel (ar : Arith) (cfg : Cfg) (op op' : Op) (ho : noExit op) (ho' : noExit op') (rb sx : Rat) :
    ∀ (fuel : Nat) (st st' : SwSt), sSw st = sSw st' →
      exMap sSw (sweepLoop ar cfg op rb sx fuel st) = exMap sSw (sweepLoop ar cfg op' rb sx fuel st') :=
  fun fuel _ _ h =>
    (sweepLoop_sim (strip_arenaSim ar op op') (fun _ _ => exitsAt_eq_of_noExit ho ho') fuel
      (swRel_of_sSw_eq h)).exMap_eq fun _ _ => sSw_eq_of_swRel

theorem subdivide_rel (ar : Arith) (cfg : Cfg) (fq : FQ) (sb cb : BBox) (op op' : Op) (ho : noExit op) (ho' : noExit op') :
    exMap sOut (subdivide ar cfg fq sb cb op) = exMap sOut (subdivide ar cfg fq sb cb op') := by
  refine (subdivide_sim (strip_arenaSim ar op op') rfl rfl
    fun _ _ => exitsAt_eq_of_noExit ho ho').exMap_eq ?_
  rintro o o' ⟨ha, ho⟩
  rw [ho, sOut, sOut, ha]

/-- the loop of `Union` (which never exits early), cut off at the first popped event on which `cut` fires:
    that event is recorded and the loop ends.  (`rb`, `sx` only go to the iteration of `Union`, whose exit test
    does not read them.) -/
def sweepLoopCut (ar : Arith) (cfg : Cfg) (cut : Pt → Bool) (rb sx : Rat) : Nat → SwSt → Except Fail SwSt
  | 0, st => .error (.budget st.bumps)
  | fuel + 1, st =>
    match Heap.pop (evLe st.arena) st.heap with
    | none => .ok st
    | some (event, h) =>
      let st := { st with heap := h, popped := st.popped + 1 }
      if st.popped > cfg.budget then .error (.budget st.bumps) else
      if cut st.arena[event]!.point then .ok { st with sorted := st.sorted.push event } else
      match sweepStep ar cfg .union rb sx st event with
      | .error e => .error e
      | .ok (true, st) => .ok st
      | .ok (false, st) => sweepLoopCut ar cfg cut rb sx fuel st

theorem sweepLoopCut_succ (ar : Arith) (cfg : Cfg) (cut : Pt → Bool) (rb sx : Rat) (fuel : Nat) (st : SwSt) :
    sweepLoopCut ar cfg cut rb sx (fuel + 1) st =
      match Heap.pop (evLe st.arena) st.heap with
      | none => .ok st
      | some (event, h) =>
        if st.popped + 1 > cfg.budget then .error (.budget st.bumps) else
        if cut st.arena[event]!.point then .ok { st with heap := h, popped := st.popped + 1, sorted := st.sorted.push event } else
        sweepStep ar cfg .union rb sx { st with heap := h, popped := st.popped + 1 } event >>= fun r =>
        if r.1 then .ok r.2 else sweepLoopCut ar cfg cut rb sx fuel r.2 := by
  rw [sweepLoopCut]
  cases Heap.pop (evLe st.arena) st.heap with
  | none => rfl
  | some r =>
    refine ite_congr rfl (fun _ => rfl) fun _ => ite_congr rfl (fun _ => rfl) fun _ => ?_
    cases sweepStep ar cfg .union rb sx _ r.1 with
    | error e => rfl
    | ok r1 =>
      obtain ⟨b, s⟩ := r1
      cases b
      · rfl
      · rfl

theorem sweepLoop_is_cut_union (ar : Arith) (cfg : Cfg) (op : Op) {rb sx : Rat} :
    ∀ (fuel : Nat) {st st' : SwSt}, SwRel (fun a a' => sA a = sA a') st st' →
      ExRel (SwRel fun a a' => sA a = sA a') (sweepLoop ar cfg op rb sx fuel st)
        (sweepLoopCut ar cfg (exitsAt op rb sx) rb sx fuel st') := by
  intro fuel
  induction fuel with
  | zero =>
    rintro _ _ ⟨_⟩
    rfl
  | succ fuel ih =>
    rintro _ _ @⟨a, a', hp, ln, so, po, bu, ha⟩
    rw [sweepLoop_succ, sweepLoopCut_succ]
    rw [← evLe_rel ha]
    cases Heap.pop (evLe a) hp with
    | none => exact ⟨ha⟩
    | some r =>
      obtain ⟨event, hp2⟩ := r
      refine .ite (fun _ => rfl) fun _ => ?_
      rw [← field_rel Ev.point ha event fun _ => rfl]
      cases hx : exitsAt op rb sx a[event]!.point with
      | true =>
        rw [sweepStep_exit ar cfg op rb sx ⟨a, hp2, ln, so, po + 1, bu⟩ event hx]
        exact ⟨ha⟩
      | false =>
        refine (sweepStep_sim (strip_arenaSim ar op .union) ⟨ha⟩
          (hx.trans (exitsAt_noExit .union (Or.inl rfl) _ _ _).symm)).bind ?_
        rintro ⟨b, s⟩ ⟨b', s'⟩ ⟨rfl, h1⟩
        exact .ite (fun _ => h1) fun _ => ih h1

theorem subdivide_cut_sorted (ar : Arith) (cfg : Cfg) (fq : FQ) (sb cb : BBox) (op : Op) :
    exMap SweepOut.sorted (subdivide ar cfg fq sb cb op)
      = exMap SwSt.sorted (sweepLoopCut ar cfg (exitsAt op (rmin sb.maxx cb.maxx) sb.maxx) (rmin sb.maxx cb.maxx) sb.maxx
          (cfg.budget + 1) { arena := fq.arena, heap := fq.heap }) := by
  rw [subdivide_eq, exMap_exMap]
  exact (sweepLoop_is_cut_union ar cfg op _ ⟨rfl⟩).exMap_eq fun _ _ ⟨_⟩ => rfl

end Gbo
