import Gbo.Proofs.Except
/-
  The bodies of `divide_segment`, of `possible_intersection` and its overlap branch, of one iteration and one round
  of the sweep loop and of `subdivide`, restated once with their pure parts named.  The restatements hold by `rfl`
  or nearly; proofs about the sweep start from them instead of unfolding the `do` blocks.
-/
namespace Gbo

/-- the point `divide_segment` really uses: corner case 1 moves it one representable number to the right -/
def bumped (ar : Arith) (a : Arena) (seL : Nat) (inter : Pt) : Pt :=
  if inter.x = a[seL]!.point.x ∧ inter.y < a[seL]!.point.y then { inter with x := ar.nextUp inter.x } else inter

/-- the state after `divide_segment(se_l, inter)` when `se_l` is paired with `se_r` (the division takes place) -/
def divided (ar : Arith) (st : SwSt) (seL seR : Nat) (inter : Pt) : SwSt :=
  let a := divideArena st.arena seL seR (bumped ar st.arena seL inter)
  { st with
    arena := a
    heap := Heap.push (evLe a) (Heap.push (evLe a) st.heap (st.arena.size + 1)) st.arena.size
    bumps := st.bumps + if inter.x = st.arena[seL]!.point.x ∧ inter.y < st.arena[seL]!.point.y then 1 else 0 }

theorem divideSegment_eq (ar : Arith) (cfg : Cfg) (st : SwSt) (seL : Nat) (inter : Pt) :
    divideSegment ar cfg st seL inter =
      if cfg.dbg && !st.arena[seL]!.left then .error (.panic (.debugAssert "divide_segment: se_l.is_left()")) else
      match st.arena[seL]!.other with
      | none => .ok st
      | some seR =>
        if cfg.dbg && !isBefore (dividePush st.arena seL seR (bumped ar st.arena seL inter)) seL st.arena.size then
          .error (.panic (.debugAssert "divide_segment: se_l.is_before(&r)"))
        else .ok (divided ar st seL seR inter) := by
  rfl

theorem divided_arena (ar : Arith) (st : SwSt) (seL seR : Nat) (inter : Pt) :
    (divided ar st seL seR inter).arena = divideArena st.arena seL seR (bumped ar st.arena seL inter) := by
  simp only [divided]

theorem divided_heap (ar : Arith) (st : SwSt) (seL seR : Nat) (inter : Pt) :
    (divided ar st seL seR inter).heap =
      Heap.push (evLe (divided ar st seL seR inter).arena)
        (Heap.push (evLe (divided ar st seL seR inter).arena) st.heap (st.arena.size + 1)) st.arena.size := by
  simp only [divided]

theorem divided_sorted (ar : Arith) (st : SwSt) (seL seR : Nat) (inter : Pt) :
    (divided ar st seL seR inter).sorted = st.sorted := by
  simp only [divided]

-- `divided` is used through `divideSegment_eq` and the projection lemmas only: a definitional-equality check such as
-- `(divided ..).sorted =?= st.sorted` first tries `divided .. =?= st` field by field, and refuting
-- `divideArena .. =?= st.arena` unfolds all of `divideArena`, which is very slow.  `simp only [divided]` still unfolds
-- it: a further projection lemma (`line`, `popped`, `bumps`) needs no `unseal`
attribute [irreducible] divided

def optDivide (ar : Arith) (cfg : Cfg) (c : Prop) [Decidable c] (st : SwSt) (idx : Nat) (p : Pt) : Except Fail SwSt :=
  if c then divideSegment ar cfg st idx p else pure st

/-- what the indices into `evs` mean, by return code: same operand (0); common left endpoint (2: the edge types are
    marked, and the longer segment is divided at the right endpoint of the shorter unless they coincide); common right
    endpoint (3: the one that starts first is divided where the other starts); otherwise (3) the one that starts
    first is divided where the other starts, and then either the other one where the first ends, or, when one segment
    contains the other, the containing one once more (its right piece, found through `other`) where the inner ends -/
theorem overlapBranch_eq (ar : Arith) (cfg : Cfg) (st : SwSt) (se1 o1 se2 o2 : Nat) :
    overlapBranch ar cfg st se1 o1 se2 o2 =
      let a := st.arena
      let evs := overlapEvents a se1 o1 se2 o2
      let pt := fun k : Nat => a[evs[k]!.1]!.point
      if a[se1]!.isSubject = a[se2]!.isSubject then pure (0, st)
      else if decide (a[se1]!.point = a[se2]!.point) then
        optDivide ar cfg (!decide (a[o1]!.point = a[o2]!.point)) { st with arena := markCoincident a se1 se2 } evs[1]!.2
          (markCoincident a se1 se2)[evs[0]!.1]!.point >>= fun st => pure (2, st)
      else if decide (a[o1]!.point = a[o2]!.point) then
        divideSegment ar cfg st evs[0]!.1 (pt 1) >>= fun st => pure (3, st)
      else if evs[0]!.1 ≠ evs[3]!.2 then
        divideSegment ar cfg st evs[0]!.1 (pt 1) >>= fun st => divideSegment ar cfg st evs[1]!.1 (pt 2) >>= fun st => pure (3, st)
      else
        divideSegment ar cfg st evs[0]!.1 (pt 1) >>= fun st =>
        match st.arena[evs[3]!.1]!.other with
        | none => throw (.panic .unwrapOther)
        | some o => divideSegment ar cfg st o (pt 2) >>= fun st => pure (3, st) := by
  unfold overlapBranch
  simp only [ite_bind]
  rfl

/-- return code 0: nothing done; 1: a crossing; 2, 3: from the overlap branch -/
theorem possibleIntersection_eq (ar : Arith) (cfg : Cfg) (st : SwSt) (se1 se2 : Nat) :
    possibleIntersection ar cfg st se1 se2 =
      match st.arena[se1]!.other, st.arena[se2]!.other with
      | some o1, some o2 =>
        match ar.isect st.arena[se1]!.point st.arena[o1]!.point st.arena[se2]!.point st.arena[o2]!.point with
        | .nonfinite => throw .nonfinite
        | .none => pure (0, st)
        | .point p =>
          if st.arena[se1]!.point = st.arena[se2]!.point ∨ st.arena[o1]!.point = st.arena[o2]!.point then pure (0, st) else
          optDivide ar cfg (st.arena[se1]!.point ≠ p ∧ st.arena[o1]!.point ≠ p) st se1 p >>= fun st1 =>
          optDivide ar cfg (st.arena[se2]!.point ≠ p ∧ st.arena[o2]!.point ≠ p) st1 se2 p >>= fun st2 => pure (1, st2)
        | .overlap _ _ => overlapBranch ar cfg st se1 o1 se2 o2
      | _, _ => pure (0, st) := by
  unfold possibleIntersection
  simp only [ite_bind]
  rfl

def noExit (op : Op) : Prop := op = .union ∨ op = .xor

/-- the early-exit test of the loop: `Intersection` stops behind the smaller right bound, `Difference`
    behind the subject's -/
def exitsAt (op : Op) (rb sx : Rat) (p : Pt) : Bool :=
  (op == .intersection && decide (p.x > rb)) || (op == .difference && decide (p.x > sx))

theorem exitsAt_noExit (op : Op) (ho : noExit op) (rb sx : Rat) (p : Pt) : exitsAt op rb sx p = false := by
  rcases ho with rfl | rfl <;> simp [exitsAt]

theorem exitsAt_eq_of_noExit {op op' : Op} (ho : noExit op) (ho' : noExit op') {rb sx rb' sx' : Rat} {p p' : Pt} :
    exitsAt op rb sx p = exitsAt op' rb' sx' p' :=
  (exitsAt_noExit op ho _ _ _).trans (exitsAt_noExit op' ho' _ _ _).symm

/-- the sweep line after inserting `event`, and its neighbours below and above -/
def lineInsert (cmp : Nat → Nat → Ordering) (line : SplayTree Nat Unit) (event : Nat) :
    SplayTree Nat Unit × Option Nat × Option Nat :=
  let l1 := (line.insert cmp event ()).1
  let l2 := l1.prev cmp event
  let l3 := l2.1.next cmp event
  (l3.1, l2.2.map (·.1), l3.2.map (·.1))

/-- a left event: the segment enters the sweep line -/
def stepLeft (ar : Arith) (cfg : Cfg) (op : Op) (st : SwSt) (event : Nat) : Except Fail (Bool × SwSt) :=
  if cfg.dbg && !keyOk st.arena event then .error (.panic (.debugAssert "compare_segments: left events")) else
  let r := lineInsert (segCmp ar cfg.dbg st.arena) st.line event
  checkNext ar cfg op { st with line := r.1, arena := computeFields st.arena event r.2.1 op } event r.2.1 r.2.2
    >>= fun st => checkPrev ar cfg op st event r.2.1 >>= fun st => pure (false, st)

/-- a right event whose left event is `other`: the segment leaves the sweep line -/
def stepRight (ar : Arith) (cfg : Cfg) (st : SwSt) (other : Nat) : Except Fail (Bool × SwSt) :=
  let cmp := segCmp ar cfg.dbg st.arena
  -- the debug build looks the leaving segment up once more, for an assertion
  let l0 := if cfg.dbg then st.line.contains cmp other else (st.line, true)
  if cfg.dbg && !l0.2 then .error (.panic (.debugAssert "Sweep line misses event to be removed")) else
  let l1 := l0.1.contains cmp other
  if !l1.2 then pure (false, { st with line := l1.1 }) else
  let l2 := l1.1.prev cmp other
  let l3 := l2.1.next cmp other
  checkRemoval ar cfg { st with line := l3.1 } l2.2 l3.2 >>= fun st =>
  pure (false, { st with line := (st.line.remove (segCmp ar cfg.dbg st.arena) other).1 })

theorem sweepStep_eq (ar : Arith) (cfg : Cfg) (op : Op) (rb sx : Rat) (st : SwSt) (event : Nat) :
    sweepStep ar cfg op rb sx st event =
      if exitsAt op rb sx st.arena[event]!.point then .ok (true, { st with sorted := st.sorted.push event })
      else if st.arena[event]!.left then stepLeft ar cfg op { st with sorted := st.sorted.push event } event
      else match st.arena[event]!.other with
        | none => .ok (false, { st with sorted := st.sorted.push event })
        | some other => stepRight ar cfg { st with sorted := st.sorted.push event } other := by
  rfl

theorem sweepStep_exit (ar : Arith) (cfg : Cfg) (op : Op) (rb sx : Rat) (st : SwSt) (event : Nat)
    (hx : exitsAt op rb sx st.arena[event]!.point = true) :
    sweepStep ar cfg op rb sx st event = .ok (true, { st with sorted := st.sorted.push event }) := by
  rw [sweepStep_eq, if_pos hx]

/-- one round of the loop with the three-way match on the iteration's result written as a bind -/
theorem sweepLoop_succ (ar : Arith) (cfg : Cfg) (op : Op) (rb sx : Rat) (fuel : Nat) (st : SwSt) :
    sweepLoop ar cfg op rb sx (fuel + 1) st =
      match Heap.pop (evLe st.arena) st.heap with
      | none => .ok st
      | some (event, h) =>
        if st.popped + 1 > cfg.budget then .error (.budget st.bumps) else
        sweepStep ar cfg op rb sx { st with heap := h, popped := st.popped + 1 } event >>= fun r =>
        if r.1 then .ok r.2 else sweepLoop ar cfg op rb sx fuel r.2 := by
  rw [sweepLoop]
  cases Heap.pop (evLe st.arena) st.heap with
  | none => rfl
  | some r =>
    dsimp only
    split
    · rfl
    · cases sweepStep ar cfg op rb sx _ r.1 with
      | error e => rfl
      | ok r1 =>
        obtain ⟨b, s⟩ := r1
        cases b
        · rfl
        · rfl

def sweepOut (st : SwSt) : SweepOut := ⟨st.arena, st.sorted, st.popped, st.bumps, st.line.size⟩

theorem subdivide_eq (ar : Arith) (cfg : Cfg) (fq : FQ) (sb cb : BBox) (op : Op) :
    subdivide ar cfg fq sb cb op = exMap sweepOut
      (sweepLoop ar cfg op (rmin sb.maxx cb.maxx) sb.maxx (cfg.budget + 1) { arena := fq.arena, heap := fq.heap }) := by
  unfold subdivide
  dsimp only
  cases sweepLoop ar cfg op _ _ _ _
  · rfl
  · rfl

end Gbo
