import Gbo.Model.Sweep
import Gbo.Proofs.Basics
/-
  `Except Fail` computations of the model.  A hypothesis `… = .ok y` about a `do` block is read backwards one
  construct at a time (`bind_ok`, `pure_ok`; a conditional by `of_ite_eq` / `of_ite_ne` of Basics).  Read forwards,
  construct by construct: `ExAll Q x`, what `x` returns, if it returns, satisfies `Q`; and for two computations side by
  side `ExRel R x y`, they fail alike or return `R`-related values.  Statements about the image of a computation are
  written with `exMap` (`Functor.map` under a name `simp` leaves alone), with its computation rules and the passage
  between `ExRel` and equations of images.
-/
namespace Gbo

theorem bind_ok {α β : Type} {x : Except Fail α} {k : α → Except Fail β} {y : β} (h : (x >>= k) = .ok y) :
    ∃ a, x = .ok a ∧ k a = .ok y := by
  cases x with
  | error e => cases h
  | ok a => exact ⟨a, rfl, h⟩

theorem pure_ok {α : Type} {x y : α} (h : (pure x : Except Fail α) = .ok y) : x = y := Except.ok.inj h

/-- `do` puts what follows a conditional into both of its branches; this takes it out again -/
theorem ite_bind {α β : Type} (c : Prop) [Decidable c] (x y : Except Fail α) (k : α → Except Fail β) :
    (if c then x >>= k else y >>= k) = (if c then x else y) >>= k := by
  split <;> rfl

/-- `h : ExAll Q x` applied to `a` and `e : x = .ok a` gives `Q a` -/
def ExAll {α : Type} (Q : α → Prop) (x : Except Fail α) : Prop := ∀ a, x = .ok a → Q a

namespace ExAll
variable {α β : Type} {P : α → Prop} {Q : β → Prop}

theorem pure {a : α} (h : P a) : ExAll P (pure a) := fun _ e => pure_ok e ▸ h

theorem error {e : Fail} : ExAll P (.error e) := nofun

theorem bind {x : Except Fail α} {k : α → Except Fail β} (hx : ExAll P x) (hk : ∀ a, P a → ExAll Q (k a)) :
    ExAll Q (x >>= k) := fun b e => by
  obtain ⟨a, ea, eb⟩ := bind_ok e
  exact hk a (hx a ea) b eb

theorem ite {c : Prop} [Decidable c] {x y : Except Fail α} (h : c → ExAll P x) (h' : ¬c → ExAll P y) :
    ExAll P (if c then x else y) := by
  split
  · exact h ‹c›
  · exact h' ‹¬c›

end ExAll

/-- proofs that need the functor laws (`map_bind`, `bind_map_left`, `map_pure`) switch to `<$>` through `exMap_eq_map` -/
def exMap {α β : Type} (g : α → β) : Except Fail α → Except Fail β
  | .ok x => .ok (g x)
  | .error e => .error e

theorem exMap_ok {α β : Type} (g : α → β) (x : α) : exMap g (.ok x : Except Fail α) = .ok (g x) := rfl
theorem exMap_error {α β : Type} (g : α → β) (e : Fail) : exMap g (.error e : Except Fail α) = .error e := rfl

theorem exMap_eq_ok {α β : Type} {g : α → β} {x : Except Fail α} {y : β} (h : exMap g x = .ok y) :
    ∃ a, x = .ok a ∧ y = g a := by
  cases x with
  | error e => cases h
  | ok a => exact ⟨a, rfl, (Except.ok.inj h).symm⟩

theorem exMap_id {α : Type} {x : Except Fail α} : exMap id x = x := by
  cases x <;> rfl

theorem exMap_exMap {α β γ : Type} (g : β → γ) (f : α → β) (x : Except Fail α) :
    exMap g (exMap f x) = exMap (fun a => g (f a)) x := by
  cases x <;> rfl

theorem exMap_eq_map {α β : Type} (g : α → β) (x : Except Fail α) : exMap g x = g <$> x := by
  cases x <;> rfl

theorem exMap_ite {α β : Type} (g : α → β) (c : Prop) [Decidable c] (x y : Except Fail α) :
    exMap g (if c then x else y) = if c then exMap g x else exMap g y := by
  split <;> rfl

theorem bind_exMap {α β α' β' : Type} (g : α → α') (g' : β → β') (x : Except Fail α) (k : α → Except Fail β)
    (k' : α' → Except Fail β') (hk : ∀ a, k' (g a) = exMap g' (k a)) :
    (exMap g x >>= k') = exMap g' (x >>= k) := by
  cases x with
  | error e => rfl
  | ok a => exact hk a

theorem exMap_pure {α β : Type} (g : α → β) (x : α) : exMap g (pure x : Except Fail α) = pure (g x) := rfl

/-- On two returned values `ExRel R` is `R` of them and on two failures their equality, by `rfl`: such a goal is closed
    by the fact itself, resp. by `rfl` (there is no `.pure` / `.error` rule). -/
def ExRel {α β : Type} (R : α → β → Prop) : Except Fail α → Except Fail β → Prop
  | .ok a, .ok b => R a b
  | .error e, .error e' => e = e'
  | _, _ => False

namespace ExRel
variable {α β γ δ : Type} {R : α → β → Prop} {S : γ → δ → Prop}

theorem elim {P : Except Fail α → Except Fail β → Prop} {x : Except Fail α} {y : Except Fail β} (h : ExRel R x y)
    (herr : ∀ e, P (.error e) (.error e)) (hok : ∀ a b, R a b → P (.ok a) (.ok b)) : P x y := by
  cases x <;> cases y
  · exact h ▸ herr _
  · exact False.elim h
  · exact False.elim h
  · exact hok _ _ h

theorem bind {x : Except Fail α} {y : Except Fail β} {k : α → Except Fail γ} {k' : β → Except Fail δ}
    (hx : ExRel R x y) (hk : ∀ a b, R a b → ExRel S (k a) (k' b)) : ExRel S (x >>= k) (y >>= k') :=
  hx.elim (P := fun x y => ExRel S (x >>= k) (y >>= k')) (fun _ => rfl) hk

theorem mono {R' : α → β → Prop} {x : Except Fail α} {y : Except Fail β} (h : ExRel R x y)
    (hR : ∀ a b, R a b → R' a b) : ExRel R' x y :=
  h.elim (P := ExRel R') (fun _ => rfl) hR

theorem exMap_eq {g : α → γ} {g' : β → γ} {x : Except Fail α} {y : Except Fail β} (h : ExRel R x y)
    (hR : ∀ a b, R a b → g a = g' b) : exMap g x = exMap g' y :=
  h.elim (P := fun x y => exMap g x = exMap g' y) (fun _ => rfl) fun a b r => congrArg _ (hR a b r)

theorem eq_exMap {g : α → β} {x : Except Fail α} {y : Except Fail β} (h : ExRel R x y)
    (hR : ∀ a b, R a b → b = g a) : y = exMap g x :=
  ((h.exMap_eq (g' := id) fun a b r => (hR a b r).symm).trans exMap_id).symm

theorem eq {x y : Except Fail α} {R : α → α → Prop} (h : ExRel R x y) (hR : ∀ a b, R a b → a = b) : x = y :=
  exMap_id.symm.trans ((h.exMap_eq (g := id) (g' := id) hR).trans exMap_id)

theorem of_exMap_eq {g : α → γ} {g' : β → γ} {x : Except Fail α} {y : Except Fail β} (h : exMap g x = exMap g' y) :
    ExRel (fun a b => g a = g' b) x y := by
  cases x <;> cases y
  · exact Except.error.inj h
  · cases h
  · cases h
  · exact Except.ok.inj h

theorem ite {c : Prop} [Decidable c] {x x' : Except Fail α} {y y' : Except Fail β}
    (h : c → ExRel R x y) (h' : ¬c → ExRel R x' y') : ExRel R (if c then x else x') (if c then y else y') := by
  split
  · exact h ‹c›
  · exact h' ‹¬c›

theorem map {g : α → γ} {g' : β → δ} {x : Except Fail α} {y : Except Fail β} (h : ExRel R x y)
    (hS : ∀ a b, R a b → S (g a) (g' b)) : ExRel S (exMap g x) (exMap g' y) :=
  h.elim (P := fun x y => ExRel S (exMap g x) (exMap g' y)) (fun _ => rfl) hS

theorem of_eq_exMap {g : α → β} {x : Except Fail α} {y : Except Fail β} (h : y = exMap g x) (hR : ∀ a, R a (g a)) :
    ExRel R x y := by
  subst h
  cases x
  · rfl
  · exact hR _

theorem of_eq {R : α → α → Prop} {x y : Except Fail α} (h : x = y) (hR : ∀ a, R a a) : ExRel R x y :=
  of_eq_exMap (g := id) (h ▸ exMap_id.symm) hR

end ExRel

end Gbo
