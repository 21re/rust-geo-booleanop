import Gbo.Proofs.Parity
import Gbo.Proofs.EdgeLine
/-
  The region comparator (`Gbo.Spec.regionFormulaCheck`), first part: the membership vector of a point is the
  vector of parities of the tagged edges below it; what spanning or missing a slab means for an edge and a point
  of the slab; a list that `orderedAt` accepts is pairwise ordered.
-/
namespace Gbo.Spec
open Gbo

theorem vecOf_perm (n : Nat) {l m : List Tagged} (h : List.Perm l m) : vecOf n l = vecOf n m :=
  congrArg (Array.map · _) (funext fun _ => parity_perm (h.map _))

theorem oddCount_tagAll_filter (atoms : Array (List Seg)) (p : Seg → Bool) (i : Nat) (hi : i < atoms.size) :
    oddCount i ((tagAll atoms).filter (fun t => p t.seg)) = parity (atoms[i]!.map p) := by
  unfold oddCount tagAll
  rw [List.filter_flatMap, List.map_flatMap, parity_flatMap,
    parity_map_single _ _ i List.nodup_range (List.mem_range.2 hi)]
  · -- the block of atom `i`
    generalize atoms[i]! = es
    induction es with
    | nil => rfl
    | cons e es ih =>
      simp only [List.map_cons, List.filter_cons]
      by_cases hp : p e
      · simp only [hp, if_true, List.map_cons, beq_self_eq_true, parity_cons, ih]
      · simp only [hp, Bool.false_eq_true, if_false, Bool.false_bne, parity_cons, ih]
  · -- the other blocks
    intro j _ hj
    refine parity_map_false _ _ fun t ht => ?_
    obtain ⟨s, _, rfl⟩ := List.mem_map.1 (List.mem_filter.1 ht).1
    exact beq_false_of_ne hj

theorem memVec_eq_vecOf (atoms : Array (List Seg)) (q : Pt) :
    atoms.map (fun es => memEdges es q) = vecOf atoms.size ((tagAll atoms).filter (fun t => edgeBelow q t.seg)) := by
  apply Array.ext
  · simp [vecOf]
  · intro i h1 h2
    simp only [vecOf, Array.getElem_map, Array.getElem_range]
    have hi : i < atoms.size := by simpa using h1
    rw [oddCount_tagAll_filter atoms (edgeBelow q) i hi]
    unfold memEdges
    rw [getElem!_pos atoms i hi]

theorem spansSlab_iff {e : Seg} {x0 x1 : Rat} :
    spansSlab e x0 x1 = true ↔ e.1.x ≠ e.2.x ∧ segMinX e ≤ x0 ∧ x1 ≤ segMaxX e := by
  simp only [spansSlab, Bool.and_eq_true, decide_eq_true_eq, and_assoc]

theorem missesSlab_iff {e : Seg} {x0 x1 : Rat} :
    missesSlab e x0 x1 = true ↔ e.1.x = e.2.x ∨ segMaxX e ≤ x0 ∨ x1 ≤ segMinX e := by
  simp only [missesSlab, Bool.or_eq_true, decide_eq_true_eq, or_assoc]

theorem edgeBelow_of_misses {q : Pt} {e : Seg} {x0 x1 : Rat} (h0 : x0 < q.x) (h1 : q.x < x1)
    (hm : missesSlab e x0 x1 = true) : edgeBelow q e = false := by
  rw [← Bool.not_eq_true, edgeBelow_iff]
  rintro ⟨⟨hl, hr⟩, -⟩
  rcases missesSlab_iff.1 hm with hv | hmax | hmin
  · exact nonvertical_of_extent hl hr hv
  · exact (hr.trans_le hmax).not_gt h0
  · exact (h1.trans_le hmin).not_ge hl

theorem edgeBelow_of_spans {q : Pt} {e : Seg} {x0 x1 : Rat} (h0 : x0 < q.x) (h1 : q.x < x1)
    (hs : spansSlab e x0 x1 = true) : edgeBelow q e = decide (yAt e q.x < q.y) := by
  obtain ⟨-, hmin, hmax⟩ := spansSlab_iff.1 hs
  rw [edgeBelow_eq, decide_eq_true (hmin.trans h0.le), decide_eq_true (h1.trans_le hmax)]
  rfl

/-- the two cases together, as the slab check meets them -/
theorem edgeBelow_in_slab {q : Pt} {e : Seg} {x0 x1 : Rat} (h0 : x0 < q.x) (h1 : q.x < x1)
    (h : (spansSlab e x0 x1 || missesSlab e x0 x1) = true) :
    edgeBelow q e = (decide (yAt e q.x < q.y) && spansSlab e x0 x1) := by
  cases hs : spansSlab e x0 x1
  · rw [hs, Bool.false_or] at h
    rw [edgeBelow_of_misses h0 h1 h, Bool.and_false]
  · rw [edgeBelow_of_spans h0 h1 hs, Bool.and_true]

theorem onSeg_of_spans {q : Pt} {e : Seg} {x0 x1 : Rat} (h0 : x0 < q.x) (h1 : q.x < x1)
    (hs : spansSlab e x0 x1 = true) (hq : q.y = yAt e q.x) : onSeg q e = true := by
  obtain ⟨hne, hmin, hmax⟩ := spansSlab_iff.1 hs
  have hl : segMinX e ≤ q.x := hmin.trans h0.le
  have hr : q.x ≤ segMaxX e := h1.le.trans hmax
  have hy := yAt_between hne hl hr
  unfold onSeg
  simp only [Bool.and_eq_true, decide_eq_true_eq]
  rw [hq]
  refine ⟨⟨⟨⟨?_, hl⟩, hr⟩, hy.1⟩, hy.2⟩
  rw [orient_eq_yAt e q hne, hq, sub_self, mul_zero]

theorem orderedAt_cons (x : Rat) (a b : Tagged) (rest : List Tagged) :
    orderedAt x (a :: b :: rest) = true ↔ yAt a.seg x ≤ yAt b.seg x ∧ orderedAt x (b :: rest) = true := by
  rw [orderedAt, Bool.and_eq_true, decide_eq_true_eq]

theorem pairwise_of_orderedAt (x : Rat) : ∀ l : List Tagged, orderedAt x l = true →
    l.Pairwise (fun a b => yAt a.seg x ≤ yAt b.seg x)
  | [], _ => .nil
  | [_], _ => List.pairwise_singleton _ _
  | a :: b :: rest, h => by
    obtain ⟨hab, h⟩ := (orderedAt_cons x a b rest).1 h
    have hp := pairwise_of_orderedAt x (b :: rest) h
    exact List.pairwise_cons.2
      ⟨fun c hc => (List.mem_cons.1 hc).elim (· ▸ hab) fun hc => hab.trans (List.rel_of_pairwise_cons hp hc), hp⟩

end Gbo.Spec
