import Mathlib.Tactic.Linarith
import Mathlib.Tactic.Ring
import Gbo.Model.Event
import Gbo.Proofs.MinMax
/-
  Maps of the plane (C08).  A map that preserves the two coordinate orders and the sign of `orient`
  (`OrderPreserving`) leaves the event order unchanged; scaling by a positive factor and translation are such maps.
  `OrdEmb` is the one-coordinate notion: what commutes with `rmin` / `rmax`, hence with the bounding boxes.
-/
namespace Gbo

def scalePt (k : Rat) (p : Pt) : Pt := { x := k * p.x, y := k * p.y }
def shiftPt (dx dy : Rat) (p : Pt) : Pt := { x := p.x + dx, y := p.y + dy }

def mapView (f : Pt → Pt) (e : EvView) : EvView :=
  { point := f e.point, left := e.left, otherPt := e.otherPt.map f, isSubject := e.isSubject }

def mapIsect (f : Pt → Pt) : Isect → Isect
  | .none => .none
  | .point p => .point (f p)
  | .overlap p q => .overlap (f p) (f q)
  | .nonfinite => .nonfinite

def mapBB (gx gy : Rat → Rat) (b : BBox) : BBox :=
  { minx := gx b.minx, miny := gy b.miny, maxx := gx b.maxx, maxy := gy b.maxy }

theorem mapView_id (v : EvView) : mapView id v = v := by
  cases v
  simp [mapView]

theorem mapIsect_id (i : Isect) : mapIsect id i = i := by
  cases i <;> rfl

theorem mapView_point (f : Pt → Pt) (e : EvView) : (mapView f e).point = f e.point := rfl
theorem mapView_left (f : Pt → Pt) (e : EvView) : (mapView f e).left = e.left := rfl
theorem mapView_isSubject (f : Pt → Pt) (e : EvView) : (mapView f e).isSubject = e.isSubject := rfl
theorem mapView_otherPt (f : Pt → Pt) (e : EvView) : (mapView f e).otherPt = e.otherPt.map f := rfl

theorem eq_iff_of_lt_iff {a b a' b' : Rat} (h1 : a' < b' ↔ a < b) (h2 : b' < a' ↔ b < a) : a' = b' ↔ a = b := by
  rw [le_antisymm_iff, le_antisymm_iff, ← not_lt, ← not_lt, ← not_lt, ← not_lt, h1, h2]

structure OrderPreserving (f : Pt → Pt) : Prop where
  xlt : ∀ p q : Pt, (f p).x < (f q).x ↔ p.x < q.x
  ylt : ∀ p q : Pt, (f p).y < (f q).y ↔ p.y < q.y
  opos : ∀ a b c : Pt, orient (f a) (f b) (f c) > 0 ↔ orient a b c > 0
  ozero : ∀ a b c : Pt, orient (f a) (f b) (f c) = 0 ↔ orient a b c = 0

namespace OrderPreserving
variable {f : Pt → Pt} (hf : OrderPreserving f)
include hf

theorem xeq (p q : Pt) : (f p).x = (f q).x ↔ p.x = q.x := eq_iff_of_lt_iff (hf.xlt p q) (hf.xlt q p)

theorem yeq (p q : Pt) : (f p).y = (f q).y ↔ p.y = q.y := eq_iff_of_lt_iff (hf.ylt p q) (hf.ylt q p)

theorem inj (p q : Pt) : f p = f q ↔ p = q :=
  ⟨fun e => Pt.ext ((hf.xeq p q).1 (congrArg Pt.x e)) ((hf.yeq p q).1 (congrArg Pt.y e)), congrArg f⟩

end OrderPreserving

theorem isBelow_map {f : Pt → Pt} (hf : OrderPreserving f) (e : EvView) (p : Pt) :
    (mapView f e).isBelow (f p) = e.isBelow p := by
  obtain ⟨pt, l, o, s⟩ := e
  cases o with
  | none => rfl
  | some o => simp only [EvView.isBelow, mapView, Option.map_some, hf.opos]

theorem isVertical_map {f : Pt → Pt} (hf : OrderPreserving f) (e : EvView) : (mapView f e).isVertical = e.isVertical := by
  obtain ⟨pt, l, o, s⟩ := e
  cases o with
  | none => rfl
  | some o => simp only [EvView.isVertical, mapView, Option.map_some, hf.xeq]

theorem cmpView_map (f : Pt → Pt) (hf : OrderPreserving f) (e1 e2 : EvView) :
    cmpView (mapView f e1) (mapView f e2) = cmpView e1 e2 := by
  unfold cmpView
  simp only [mapView_point, mapView_left, mapView_isSubject, mapView_otherPt, gt_iff_lt, hf.xlt, hf.ylt]
  cases e1.otherPt with
  | none => rfl
  | some o1 =>
    cases e2.otherPt with
    | none => rfl
    | some o2 => simp only [Option.map_some, ne_eq, hf.ozero, isBelow_map hf]

structure OrdEmb (g : Rat → Rat) : Prop where
  lt : ∀ a b, g a < g b ↔ a < b

namespace OrdEmb
variable {g : Rat → Rat} (hg : OrdEmb g)
include hg

theorem le (a b : Rat) : g a ≤ g b ↔ a ≤ b := by
  rw [← not_lt, ← not_lt, hg.lt]

theorem rmin (a b : Rat) : rmin (g a) (g b) = g (rmin a b) := by
  simp only [Gbo.rmin, hg.le, apply_ite g]

theorem rmax (a b : Rat) : rmax (g a) (g b) = g (rmax a b) := by
  simp only [Gbo.rmax, hg.le, apply_ite g]

end OrdEmb

theorem orient_scale (k : Rat) (a b c : Pt) : orient (scalePt k a) (scalePt k b) (scalePt k c) = k * k * orient a b c := by
  unfold orient scalePt
  ring

theorem orient_shift (dx dy : Rat) (a b c : Pt) : orient (shiftPt dx dy a) (shiftPt dx dy b) (shiftPt dx dy c) = orient a b c := by
  unfold orient shiftPt
  ring

theorem ordEmb_mul {c : Rat} (hc : 0 < c) : OrdEmb (c * ·) := ⟨fun _ _ => Rat.mul_lt_mul_left hc⟩

theorem mul_cc_eq_zero {c : Rat} (hc : c ≠ 0) (x : Rat) : c * c * x = 0 ↔ x = 0 :=
  mul_eq_zero_iff_left (mul_ne_zero hc hc)

theorem scale_orderPreserving (k : Rat) (hk : 0 < k) : OrderPreserving (scalePt k) where
  xlt _ _ := Rat.mul_lt_mul_left hk
  ylt _ _ := Rat.mul_lt_mul_left hk
  opos a b c := by
    rw [orient_scale]
    exact mul_pos_iff_of_pos_left (mul_pos hk hk)
  ozero a b c := by
    rw [orient_scale]
    exact mul_cc_eq_zero (ne_of_gt hk) _

theorem id_orderPreserving : OrderPreserving id :=
  ⟨fun _ _ => Iff.rfl, fun _ _ => Iff.rfl, fun _ _ _ => Iff.rfl, fun _ _ _ => Iff.rfl⟩

theorem shift_orderPreserving (dx dy : Rat) : OrderPreserving (shiftPt dx dy) where
  xlt p q := add_lt_add_iff_right dx
  ylt p q := add_lt_add_iff_right dy
  opos a b c := by rw [orient_shift]
  ozero a b c := by rw [orient_shift]

end Gbo
