import Gbo.Proofs.HeapMem
import Gbo.Proofs.Step
import Gbo.Proofs.Divide
/-
  The writes of the sweep, walked through once.  The arena is written in two ways: by `divide_segment` (new events,
  new pairing) and by bookkeeping (`compute_fields`, the edge-type marking), which rewrites flags only (`SameSkel`).
  `possible_intersection` is, at most, the marking followed by up to two `divide_segment`s; one iteration of the loop
  adds `compute_fields` and sweep-line updates.  Whatever those primitives preserve is preserved by
  `possible_intersection`, one iteration, the loop and `subdivide`: every branch, every arithmetic (`*_inv` for a
  predicate on the whole state, `SweepStable` for a property of the arena).
-/
namespace Gbo

/-- the points at which `possible_intersection st se1 se2` may divide a segment: the intersection point it
    computed, or (overlap branch) the point of one of the events it sorted.  `k` is not bounded: beyond the end
    `[k]!` is the default pair `(0, 0)`, so the point of event `0` counts as well; which segment is divided at which
    of these points is not recorded (`overlapBranch_eq` has it). -/
def DivPoint (ar : Arith) (a : Arena) (se1 se2 : Nat) (p : Pt) : Prop :=
  ∃ o1 o2, a[se1]!.other = some o1 ∧ a[se2]!.other = some o2 ∧
    (ar.isect a[se1]!.point a[o1]!.point a[se2]!.point a[o2]!.point = .point p ∨
     ∃ k : Nat, p = a[((overlapEvents a se1 o1 se2 o2)[k]!).1]!.point)

theorem overlapEvents_forall {a : Arena} {se1 o1 se2 o2 : Nat} {P : Nat × Nat → Prop} (h1 : P (se1, o1))
    (h2 : P (se2, o2)) (h3 : P (o1, se1)) (h4 : P (o2, se2)) : ∀ x ∈ overlapEvents a se1 o1 se2 o2, P x := by
  unfold overlapEvents
  have nil : ∀ x ∈ (#[] : Array (Nat × Nat)), P x := fun x hx => absurd hx (Array.not_mem_empty x)
  refine forall_mem_ite ?evs (forall_mem_ite (forall_mem_push (forall_mem_push ?evs h4) h3)
    (forall_mem_push (forall_mem_push ?evs h3) h4))
  exact forall_mem_ite nil (forall_mem_ite (forall_mem_push (forall_mem_push nil h2) h1)
    (forall_mem_push (forall_mem_push nil h1) h2))

/-- the overlap case of `DivPoint` names an existing event (`0`, read beyond the end, is an index as soon as `se1` is) -/
theorem overlapEvents_fst_lt {a : Arena} {se1 o1 se2 o2 : Nat} (hs1 : se1 < a.size) (hs2 : se2 < a.size)
    (ho1 : o1 < a.size) (ho2 : o2 < a.size) (k : Nat) : (overlapEvents a se1 o1 se2 o2)[k]!.1 < a.size :=
  get!_of_forall_mem (P := (·.1 < a.size)) (overlapEvents_forall hs1 hs2 ho1 ho2) (Nat.zero_lt_of_lt hs1) k

section
variable {ar : Arith} {cfg : Cfg} {I : SwSt → Prop}

theorem optDivide_inv {c : Prop} [Decidable c] {st : SwSt} {idx : Nat} {p : Pt}
    (hdiv : I st → ExAll I (divideSegment ar cfg st idx p)) (h0 : I st) : ExAll I (optDivide ar cfg c st idx p) :=
  .ite (fun _ => hdiv h0) fun _ => .pure h0

theorem overlapBranch_inv {st : SwSt} {se1 o1 se2 o2 : Nat}
    (hdiv : ∀ {s idx} (k : Nat), I s →
      ExAll I (divideSegment ar cfg s idx st.arena[((overlapEvents st.arena se1 o1 se2 o2)[k]!).1]!.point))
    (hmark : I { st with arena := markCoincident st.arena se1 se2 }) (h0 : I st) :
    ExAll (fun r => I r.2) (overlapBranch ar cfg st se1 o1 se2 o2) := by
  rw [overlapBranch_eq]
  simp only [markCoincident_point]
  refine .ite (fun _ => .pure h0) fun _ => ?_
  refine .ite (fun _ => (optDivide_inv (hdiv 0) hmark).bind fun _ h1 => .pure h1) fun _ => ?_
  refine .ite (fun _ => (hdiv 1 h0).bind fun _ h1 => .pure h1) fun _ => ?_
  refine .ite (fun _ => (hdiv 1 h0).bind fun _ h1 => (hdiv 2 h1).bind fun _ h2 => .pure h2) fun _ => ?_
  refine (hdiv 1 h0).bind fun s1 h1 => ?_
  split
  · exact .error
  · exact (hdiv 2 h1).bind fun _ h2 => .pure h2

theorem possibleIntersection_inv {st : SwSt} {se1 se2 : Nat}
    (hdiv : ∀ {s idx} p, DivPoint ar st.arena se1 se2 p → I s → ExAll I (divideSegment ar cfg s idx p))
    (hmark : I { st with arena := markCoincident st.arena se1 se2 }) (h0 : I st) :
    ExAll (fun r => I r.2) (possibleIntersection ar cfg st se1 se2) := by
  rw [possibleIntersection_eq]
  cases h1 : st.arena[se1]!.other with
  | none => exact .pure h0
  | some o1 =>
    cases h2 : st.arena[se2]!.other with
    | none => exact .pure h0
    | some o2 =>
      dsimp only
      cases hi : ar.isect st.arena[se1]!.point st.arena[o1]!.point st.arena[se2]!.point st.arena[o2]!.point with
      | nonfinite => exact .error
      | none => exact .pure h0
      | point p =>
        have hp : DivPoint ar st.arena se1 se2 p := ⟨o1, o2, h1, h2, .inl hi⟩
        exact .ite (fun _ => .pure h0) fun _ => (optDivide_inv (hdiv p hp) h0).bind fun _ g1 =>
          (optDivide_inv (hdiv p hp) g1).bind fun _ g2 => .pure g2
      | overlap _ _ => exact overlapBranch_inv (fun k => hdiv _ ⟨o1, o2, h1, h2, .inr ⟨k, rfl⟩⟩) hmark h0

theorem possibleIntersection_arena {P : Arena → Prop} {st : SwSt} {se1 se2 : Nat} {r : Nat × SwSt}
    (h : possibleIntersection ar cfg st se1 se2 = .ok r)
    (hdiv : ∀ {s s' idx} p, DivPoint ar st.arena se1 se2 p → divideSegment ar cfg s idx p = .ok s' → P s.arena → P s'.arena)
    (hmark : P (markCoincident st.arena se1 se2)) (h0 : P st.arena) : P r.2.arena :=
  possibleIntersection_inv (I := fun s => P s.arena) (fun p hp hs _ hd => hdiv p hp hd hs)
    (by
      -- reduces `{ st with arena := _ }.arena`; left to the unifier, the goal is decided by unfolding `markCoincident` first
      dsimp only
      exact hmark) h0 r h

end

/-- An invariant of the sweep state under the writes of the loop body.  `fields` and `line` are stated on the
    components of the state so that applying them never has to unify through projections.  `line` asks for every new
    line `l'`, not only for those the loop produces: an invariant that speaks about the contents of the sweep line is
    not a `StepInv`. -/
structure StepInv (ar : Arith) (cfg : Cfg) (I : SwSt → Prop) : Prop where
  pi : ∀ {st : SwSt} {se1 se2 : Nat}, I st → ExAll (fun r => I r.2) (possibleIntersection ar cfg st se1 se2)
  fields : ∀ {a h l s p b} {e : Nat} {prev : Option Nat} {op : Op},
    I ⟨a, h, l, s, p, b⟩ → I ⟨computeFields a e prev op, h, l, s, p, b⟩
  line : ∀ {a h l s p b} {l' : SplayTree Nat Unit}, I ⟨a, h, l, s, p, b⟩ → I ⟨a, h, l', s, p, b⟩
  pop : ∀ {st : SwSt} {e : Nat} {hp : Array Nat}, Heap.pop (evLe st.arena) st.heap = some (e, hp) → I st →
    I ⟨st.arena, hp, st.line, st.sorted.push e, st.popped + 1, st.bumps⟩

/-- `J n h s`: the arena's size, the queue, `sorted_events`.  A predicate that mentions `popped` or `bumps` needs a
    `StepInv` made by hand. -/
theorem StepInv.of_sizes {ar : Arith} {cfg : Cfg} {J : Nat → Array Nat → Array Nat → Prop}
    (hpush : ∀ {n h s} (le : Nat → Nat → Bool), J n h s → J (n + 2) (Heap.push le (Heap.push le h (n + 1)) n) s)
    (hpop : ∀ {n h hp s e} {le : Nat → Nat → Bool}, Heap.pop le h = some (e, hp) → J n h s → J n hp (s.push e)) :
    StepInv ar cfg fun st => J st.arena.size st.heap st.sorted where
  pi h0 := possibleIntersection_inv (I := fun st => J st.arena.size st.heap st.sorted)
    (fun _ _ hJ _ hd => by
      obtain ⟨_, rfl⟩ | ⟨seR, _, rfl⟩ := divideSegment_ok hd
      · exact hJ
      · rw [divided_size, divided_heap, divided_sorted]
        exact hpush _ hJ)
    (by rwa [(markCoincident_skel ..).1]) h0
  fields hJ := by
    rwa [(computeFields_skel ..).1]
  line := id
  pop := hpop

section
variable {ar : Arith} {cfg : Cfg} {I : SwSt → Prop} (hs : StepInv ar cfg I)
include hs

theorem checkNext_inv {op : Op} {st : SwSt} {event : Nat} {prev next : Option Nat} (h0 : I st) :
    ExAll I (checkNext ar cfg op st event prev next) := by
  cases next with
  | none => exact .pure h0
  | some nx =>
    refine (hs.pi h0).bind ?_
    rintro ⟨code, st1⟩ h1
    exact .ite (fun _ => .pure (hs.fields (hs.fields h1))) fun _ => .pure h1

theorem checkPrev_inv {op : Op} {st : SwSt} {event : Nat} {prev : Option Nat} (h0 : I st) :
    ExAll I (checkPrev ar cfg op st event prev) := by
  cases prev with
  | none => exact .pure h0
  | some pv =>
    refine (hs.pi h0).bind ?_
    rintro ⟨code, st1⟩ h1
    exact .ite (fun _ => .pure (hs.fields (hs.fields (hs.line h1)))) fun _ => .pure h1

theorem checkRemoval_inv {st : SwSt} {prev next : Option (Nat × Unit)} (h0 : I st) :
    ExAll I (checkRemoval ar cfg st prev next) := by
  unfold checkRemoval
  split
  · exact (hs.pi h0).bind fun _ h1 => .pure h1
  · exact .pure h0

theorem stepLeft_inv {op : Op} {st : SwSt} {event : Nat} (h0 : I st) :
    ExAll (fun r => I r.2 ∧ r.1 = false) (stepLeft ar cfg op st event) :=
  .ite (fun _ => .error) fun _ => (checkNext_inv hs (hs.fields (hs.line h0))).bind fun _ h1 =>
    (checkPrev_inv hs h1).bind fun _ h2 => .pure ⟨h2, rfl⟩

theorem stepRight_inv {st : SwSt} {other : Nat} (h0 : I st) :
    ExAll (fun r => I r.2 ∧ r.1 = false) (stepRight ar cfg st other) :=
  .ite (fun _ => .error) fun _ => .ite (fun _ => .pure ⟨hs.line h0, rfl⟩) fun _ =>
    (checkRemoval_inv hs (hs.line h0)).bind fun _ h1 => .pure ⟨hs.line h1, rfl⟩

theorem sweepStep_inv {op : Op} {rb sx : Rat} {st : SwSt} {event : Nat}
    (h0 : I { st with sorted := st.sorted.push event }) :
    ExAll (fun r => I r.2 ∧ r.1 = exitsAt op rb sx st.arena[event]!.point) (sweepStep ar cfg op rb sx st event) := by
  rw [sweepStep_eq]
  refine .ite (fun hc => .pure ⟨h0, hc.symm⟩) fun hc => ?_
  rw [Bool.not_eq_true] at hc
  rw [hc]
  refine .ite (fun _ => stepLeft_inv hs h0) fun _ => ?_
  split
  · exact .pure ⟨h0, rfl⟩
  · exact stepRight_inv hs h0

/-- the second conjunct (`Once` needs it) rides along, as the exit flag does in `sweepStep_inv`: on its own it would
    take a second induction over the loop -/
theorem sweepLoop_inv {op : Op} {rb sx : Rat} : ∀ (fuel : Nat) {st : SwSt}, I st →
      ExAll (fun st' => I st' ∧ (noExit op → st'.heap.size = 0)) (sweepLoop ar cfg op rb sx fuel st) := by
  intro fuel
  induction fuel with
  | zero => exact fun _ => .error
  | succ fuel ih =>
    intro st h0
    rw [sweepLoop_succ]
    split
    · rename_i hpop'
      exact .pure ⟨h0, fun _ => (Heap.pop_none_iff _ _).mp hpop'⟩
    · rename_i event hp hpop'
      refine .ite (fun _ => .error) fun _ => (sweepStep_inv hs (hs.pop hpop' h0)).bind ?_
      rintro ⟨b, st1⟩ ⟨h1, hb⟩
      refine .ite (fun hb1 => .pure ⟨h1, fun ho => ?_⟩) fun _ => ih h1
      rw [hb, exitsAt_noExit op ho] at hb1
      cases hb1

/-- `st` is the final state of the loop; `sw = sweepOut st` keeps neither `st.heap` nor `st.line`, so two invariants
    about one final state need a joint `StepInv` -/
theorem subdivide_inv {op : Op} {fq : FQ} {sb cb : BBox} {sw : SweepOut}
    (h : subdivide ar cfg fq sb cb op = .ok sw) (h0 : I { arena := fq.arena, heap := fq.heap }) :
    ∃ st, I st ∧ (noExit op → st.heap.size = 0) ∧ sw = sweepOut st := by
  rw [subdivide_eq] at h
  obtain ⟨st, hl, rfl⟩ := exMap_eq_ok h
  exact ⟨st, (sweepLoop_inv hs _ h0 st hl).1, (sweepLoop_inv hs _ h0 st hl).2, rfl⟩

end

/-- the hypotheses under which an arena property survives the sweep: nothing but `compute_fields` and
    `possible_intersection` writes to the arena in the loop -/
structure SweepStable (ar : Arith) (P : Arena → Prop) : Prop where
  fields : ∀ (a : Arena) (e : Nat) (prev : Option Nat) (op : Op), P a → P (computeFields a e prev op)
  pi : ∀ (cfg : Cfg) (st st' : SwSt) (se1 se2 r : Nat),
      possibleIntersection ar cfg st se1 se2 = .ok (r, st') → P st.arena → P st'.arena

theorem SweepStable.of_divide (ar : Arith) {P : Arena → Prop}
    (fields : ∀ (a : Arena) (e : Nat) (prev : Option Nat) (op : Op), P a → P (computeFields a e prev op))
    (divide : ∀ (ar : Arith) (cfg : Cfg) (st st' : SwSt) (idx : Nat) (p : Pt),
      divideSegment ar cfg st idx p = .ok st' → P st.arena → P st'.arena)
    (mark : ∀ (a : Arena) (se1 se2 : Nat), P a → P (markCoincident a se1 se2)) : SweepStable ar P :=
  ⟨fields, fun cfg st _ se1 se2 _ h hP =>
    possibleIntersection_arena h (fun _ _ => divide ar cfg _ _ _ _) (mark st.arena se1 se2 hP) hP⟩

theorem SweepStable.stepInv {ar : Arith} {P : Arena → Prop} (hs : SweepStable ar P) (cfg : Cfg) :
    StepInv ar cfg fun s => P s.arena where
  pi h0 r h := hs.pi cfg _ r.2 _ _ r.1 h h0
  fields h := by
    dsimp only at h ⊢
    exact hs.fields _ _ _ _ h
  line := id
  pop _ := id

theorem subdivide_preserves {P : Arena → Prop} (ar : Arith) (hs : SweepStable ar P) (cfg : Cfg) (fq : FQ) (sb cb : BBox)
    (op : Op) (sw : SweepOut) (h : subdivide ar cfg fq sb cb op = .ok sw) (hP : P fq.arena) : P sw.arena := by
  obtain ⟨st, h1, _, rfl⟩ := subdivide_inv (hs.stepInv cfg) h hP
  exact h1

theorem SweepStable.of_skel (ar : Arith) {P : Arena → Prop} (hskel : ∀ {a b}, P a → SameSkel a b → P b)
    (divide : ∀ {a seL seR p}, a[seL]!.other = some seR → P a → P (divideArena a seL seR p)) : SweepStable ar P :=
  .of_divide ar (fun _ _ _ _ h => hskel h (computeFields_skel ..))
    (fun _ _ _ _ _ _ hd h => divideSegment_arena hd (fun _ ho => divide ho h) h) (fun _ _ _ h => hskel h (markCoincident_skel ..))

end Gbo
