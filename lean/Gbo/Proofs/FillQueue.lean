import Gbo.Proofs.Orders
import Gbo.Proofs.FillFold
/-
  `fill_queue`: one mutually linked left/right pair per non-degenerate input edge, the left event first in
  sweep order, exact bounding boxes.  For all inputs (arithmetic plays no role here).  The pairing is an invariant
  of `processLine`; the number of events and the boxes are read off level by level, relative to the state a level
  starts from.
-/
namespace Gbo

theorem mkPair_left (n : Nat) {s e : Pt} (hne : s ≠ e) (subj : Bool) (cid : Nat) (ext : Bool) :
    ((mkPair n s e subj cid ext).1.left = true ↔ ptLt s e) ∧
    ((mkPair n s e subj cid ext).2.left = true ↔ ptLt e s) := by
  rcases ptLt_trichotomy s e with h | h | h
  · have h1 := cmpView_of_ptLt (e1 := ⟨s, false, some e, subj⟩) (e2 := ⟨e, false, some s, subj⟩) h
    simp [mkPair, h1, h, ptLt_asymm h]
  · exact absurd h hne
  · have h2 := cmpView_of_ptGt (e1 := ⟨s, false, some e, subj⟩) (e2 := ⟨e, false, some s, subj⟩) h
    simp [mkPair, h2, h, ptLt_asymm h]

/-- the pair stored at positions `2k`, `2k+1` -/
def PairAt (a : Arena) (k : Nat) : Prop :=
  ∃ e1 e2, a[2 * k]? = some e1 ∧ a[2 * k + 1]? = some e2
    ∧ e1.other = some (2 * k + 1) ∧ e2.other = some (2 * k)
    ∧ e1.left = !e2.left ∧ e1.point ≠ e2.point
    ∧ (e1.left = true → ptLt e1.point e2.point) ∧ (e2.left = true → ptLt e2.point e1.point)
    ∧ e1.isSubject = e2.isSubject ∧ e1.contourId = e2.contourId

def Paired (a : Arena) : Prop := a.size % 2 = 0 ∧ ∀ k, 2 * k + 1 < a.size → PairAt a k

theorem paired_empty : Paired (#[] : Arena) := ⟨rfl, fun k hk => by simp at hk⟩

theorem PairAt.push2 {a : Arena} {k : Nat} (h : PairAt a k) (x y : Ev) : PairAt ((a.push x).push y) k := by
  obtain ⟨e1, e2, g1, g2, rest⟩ := h
  exact ⟨e1, e2, getElem?_push_of_some _ (getElem?_push_of_some _ g1),
    getElem?_push_of_some _ (getElem?_push_of_some _ g2), rest⟩

theorem pairAt_mkPair {a : Arena} {k : Nat} (hk : 2 * k = a.size) {s e : Pt} (hne : s ≠ e) (subj : Bool)
    (cid : Nat) (ext : Bool) :
    let p := mkPair a.size s e subj cid ext
    PairAt ((a.push p.1).push p.2) k := by
  intro p
  unfold PairAt
  rw [hk]
  exact ⟨p.1, p.2, getElem?_push_of_some _ Array.getElem?_push_size,
    by rw [Array.getElem?_push, if_pos (Array.size_push _).symm],
    rfl, rfl, rfl, hne, (mkPair_left a.size hne subj cid ext).1.mp, (mkPair_left a.size hne subj cid ext).2.mp, rfl, rfl⟩

/-- the only pair slot that starts in the last two places of an even-sized array starts at the first of them -/
theorem even_slot {n k : Nat} (hn : n % 2 = 0) (h1 : n ≤ 2 * k + 1) (h2 : 2 * k + 1 < n + 2) : 2 * k = n :=
  Nat.le_antisymm (Nat.le_of_lt_succ (Nat.lt_of_succ_lt_succ h2))
    (Nat.le_of_lt_succ ((Nat.lt_or_eq_of_le h1).resolve_right fun e =>
      absurd ((Nat.mul_add_mod 2 k 1).symm.trans (e ▸ hn)) (by decide)))

theorem pair_slots_lt {k n : Nat} (h : k < n / 2) : 2 * k < n ∧ 2 * k + 1 < n :=
  have h2 : 2 * k + 2 ≤ n := Nat.le_trans (Nat.mul_le_mul_left 2 h) (Nat.mul_div_le n 2)
  ⟨Nat.lt_of_lt_of_le (Nat.lt_add_of_pos_right (by decide)) h2, h2⟩

theorem Paired.push_mkPair {a : Arena} (hp : Paired a) {s e : Pt} (hne : s ≠ e) (subj : Bool) (cid : Nat) (ext : Bool) :
    let p := mkPair a.size s e subj cid ext
    Paired ((a.push p.1).push p.2) := by
  intro p
  refine ⟨?_, fun k hk => ?_⟩
  · rw [Array.size_push, Array.size_push]
    exact (Nat.add_mod_right _ 2).trans hp.1
  · rw [Array.size_push, Array.size_push] at hk
    rcases Nat.lt_or_ge (2 * k + 1) a.size with hold | hnew
    · exact (hp.2 k hold).push2 _ _
    · exact pairAt_mkPair (even_slot hp.1 hnew hk) hne subj cid ext

theorem processLine_spec (subj : Bool) (cid : Nat) (ext : Bool) (st : FQ × Option BBox) (s e : Pt)
    (hp : Paired st.1.arena) :
    let r := processLine subj cid ext st s e
    Paired r.1.arena
    ∧ r.1.arena.size = st.1.arena.size + (if s = e then 0 else 2)
    ∧ r.2 = (if s = e then st.2 else bboxAdd st.2 s)
    ∧ (∀ i, i < st.1.arena.size → r.1.arena[i]? = st.1.arena[i]?) := by
  by_cases hse : s = e
  · subst hse
    rw [processLine_same, if_pos rfl, if_pos rfl]
    exact ⟨hp, rfl, rfl, fun _ _ => rfl⟩
  · obtain ⟨harena, hbox⟩ := processLine_ne subj cid ext st hse
    simp only [hse, if_false]
    rw [harena, hbox]
    exact ⟨hp.push_mkPair hse subj cid ext, by rw [Array.size_push, Array.size_push], rfl,
      fun i hi => (getElem?_push_of_some _ (getElem?_push_of_some _ (Array.getElem?_eq_getElem hi))).trans
        (Array.getElem?_eq_getElem hi).symm⟩

/-- starts of the non-degenerate lines of a ring, in order -/
def ringStarts : Ring → List Pt
  | p :: q :: rest => if p = q then ringStarts (q :: rest) else p :: ringStarts (q :: rest)
  | _ => []

theorem ringStarts_eq : ∀ ring : Ring, ringStarts ring = (ringLines ring).map Prod.fst
  | [] | [_] => rfl
  | p :: q :: rest => by
    rw [ringStarts, ringLines, ringStarts_eq (q :: rest), apply_ite (List.map Prod.fst), List.map_cons]

/-- `st` is `st0` with two events appended, and the box extended, for each of `starts`: what every level of
    `fill_queue` (line, ring, polygon, operand) does, for its own list of starts -/
structure Filled (st0 : FQ × Option BBox) (starts : List Pt) (st : FQ × Option BBox) : Prop where
  size : st.1.arena.size = st0.1.arena.size + 2 * starts.length
  box : st.2 = starts.foldl bboxAdd st0.2

theorem Filled.refl (st : FQ × Option BBox) : Filled st [] st := ⟨rfl, rfl⟩

theorem Filled.trans {st0 st1 st2 : FQ × Option BBox} {l1 l2 : List Pt} (h1 : Filled st0 l1 st1)
    (h2 : Filled st1 l2 st2) : Filled st0 (l1 ++ l2) st2 :=
  ⟨by rw [h2.size, h1.size, List.length_append, Nat.mul_add, Nat.add_assoc],
    by rw [h2.box, h1.box, List.foldl_append]⟩

theorem processLine_filled (subj : Bool) (cid : Nat) (ext : Bool) (st : FQ × Option BBox) {s e : Pt} (hne : s ≠ e) :
    Filled st [s] (processLine subj cid ext st s e) := by
  obtain ⟨harena, hbox⟩ := processLine_ne subj cid ext st hne
  refine ⟨?_, hbox⟩
  rw [harena, Array.size_push, Array.size_push]
  rfl

theorem processRing_filled (subj : Bool) (cid : Nat) (ext : Bool) (ring : Ring) (st : FQ × Option BBox) :
    Filled st (ringStarts ring) (processRing subj cid ext st ring) := by
  rw [processRing_eq, ringStarts_eq]
  refine foldl_prefix (J := fun r done => Filled st (done.map Prod.fst) r) _ st (.refl st) fun r done se hse g => ?_
  rw [List.map_append]
  exact g.trans (processLine_filled subj cid ext r (ringLines_mem hse).2.2)

def polyStarts (p : Poly) : List Pt := ringStarts p.ext ++ p.holes.flatMap ringStarts

theorem processPolygon_filled (subj : Bool) (cid : Nat) (ext : Bool) (p : Poly) (st : FQ × Option BBox) :
    Filled st (polyStarts p) (processPolygon subj cid ext st p) := by
  refine foldl_prefix (J := fun r done => Filled st (ringStarts p.ext ++ done.flatMap ringStarts) r) _ _ ?_
    fun r done h _ g => ?_
  · rw [List.flatMap_nil, List.append_nil]
    exact processRing_filled subj cid ext p.ext st
  · rw [List.flatMap_append, List.flatMap_singleton, ← List.append_assoc]
    exact g.trans (processRing_filled subj cid false h r)

end Gbo

namespace Gbo.Props

/-- starts of all non-degenerate lines of an operand (one per event pair), in queue-filling order -/
def operandStarts (m : MPoly) : List Pt := m.flatMap polyStarts

end Gbo.Props

namespace Gbo
open Props (operandStarts)

theorem operandStarts_eq_nil {m : MPoly} (h : ∀ p ∈ m, p.ext.length ≤ 1 ∧ ∀ r ∈ p.holes, r.length ≤ 1) :
    operandStarts m = [] := by
  have short : ∀ r : Ring, r.length ≤ 1 → ringStarts r = []
    | [], _ | [_], _ => rfl
    | _ :: _ :: _, hr => absurd (Nat.le_of_succ_le_succ hr) (Nat.not_succ_le_zero _)
  refine List.flatMap_eq_nil_iff.mpr fun p hp => ?_
  rw [polyStarts, short _ (h p hp).1, List.nil_append]
  exact List.flatMap_eq_nil_iff.mpr fun r hr => short r ((h p hp).2 r hr)

/-- both operands are folded by a step that calls `process_polygon` with some flags and some contour id -/
theorem operandFold_filled (step : Nat × FQ × Option BBox → Poly → Nat × FQ × Option BBox)
    (hstep : ∀ acc p, ∃ subj cid ext, (step acc p).2 = processPolygon subj cid ext (acc.2.1, acc.2.2) p) (ps : List Poly)
    (acc : Nat × FQ × Option BBox) : Filled acc.2 (operandStarts ps) (ps.foldl step acc).2 := by
  refine foldl_prefix (J := fun (r : Nat × FQ × Option BBox) done => Filled acc.2 (operandStarts done) r.2) ps acc
    (.refl _) fun r done p _ g => ?_
  obtain ⟨subj, cid, ext, hs⟩ := hstep r p
  rw [operandStarts, List.flatMap_append, List.flatMap_singleton, hs]
  exact g.trans (processPolygon_filled subj cid ext p _)

theorem fillQueue_spec (a b : MPoly) (op : Op) :
    Paired (fillQueue a b op).fq.arena
    ∧ (fillQueue a b op).fq.arena.size = 2 * ((operandStarts a).length + (operandStarts b).length)
    ∧ (fillQueue a b op).sbbox = (operandStarts a).foldl bboxAdd none
    ∧ (fillQueue a b op).cbbox = (operandStarts b).foldl bboxAdd none := by
  refine ⟨fillQueue_inv (I := fun fq => Paired fq.arena) a b op
    (fun subj cid ext st s e _ _ hp => (processLine_spec subj cid ext st s e hp).1) paired_empty, ?_⟩
  unfold fillQueue
  obtain ⟨h2, h3⟩ := operandFold_filled subjStep (fun _ _ => ⟨_, _, _, rfl⟩) a (0, {}, none)
  obtain ⟨g2, g3⟩ := operandFold_filled (clipStep op) (fun _ _ => ⟨_, _, _, rfl⟩) b (_, _, none)
  refine ⟨?_, h3, g3⟩
  rw [g2, h2, Nat.mul_add]
  -- the empty queue's arena has size 0
  exact congrArg (· + _) (Nat.zero_add _)

end Gbo
