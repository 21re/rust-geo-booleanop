import Gbo.Proofs.Arena
import Gbo.Proofs.Step
/-
  `divide_segment`: what it does to the arena (`Divided`: the skeleton of the new arena, field by field) and to the
  state, for every arithmetic.  Under exact arithmetic the `nextafter` bump is the identity, so the division happens
  at the very point given; `crossArena` is what the crossing branch of `possible_intersection` then makes of the arena.
-/
namespace Gbo

theorem dividePush_size (a : Arena) (seL seR : Nat) (p : Pt) : (dividePush a seL seR p).size = a.size + 2 :=
  (Array.size_push _).trans (congrArg (· + 1) (Array.size_push _))

theorem dividePush_old {a : Arena} {seL seR : Nat} {p : Pt} {i : Nat} (hi : i < a.size) :
    (dividePush a seL seR p)[i]! = a[i]! :=
  get!_push2_lt hi

theorem dividePush_fst (a : Arena) (seL seR : Nat) (p : Pt) :
    (dividePush a seL seR p)[a.size]! =
      { point := p, left := false, other := some seL, contourId := a[seL]!.contourId, isSubject := a[seL]!.isSubject,
        isExteriorRing := true } :=
  get!_push2_fst

theorem dividePush_snd (a : Arena) (seL seR : Nat) (p : Pt) :
    (dividePush a seL seR p)[a.size + 1]! =
      { point := p, left := true, other := some seR, contourId := a[seL]!.contourId, isSubject := a[seL]!.isSubject,
        isExteriorRing := true } :=
  get!_push2_snd

/-- the left/right swap stage of `divideArena` (corner case 2), for an arena `b` with the new left event at `li` -/
def swapStage (b : Arena) (li seR : Nat) : Arena :=
  if !isBefore b li seR then
    (b.modify seR (fun ev => { ev with left := true })).modify li (fun ev => { ev with left := false })
  else b

theorem swapStage_size (b : Arena) (li seR : Nat) : (swapStage b li seR).size = b.size := by
  unfold swapStage
  split
  · rw [Array.size_modify, Array.size_modify]
  · rfl

theorem apply_swapStage {β : Type} (g : Ev → β) (hg : ∀ (e : Ev) (l : Bool), g { e with left := l } = g e)
    (b : Arena) (li seR j : Nat) : g (swapStage b li seR)[j]! = g b[j]! := by
  unfold swapStage
  split
  · rw [apply_get!_modify g (hg · false), apply_get!_modify g (hg · true)]
  · rfl

theorem divideArena_eq (a : Arena) (seL seR : Nat) (inter : Pt) :
    divideArena a seL seR inter =
      ((swapStage (dividePush a seL seR inter) (a.size + 1) seR).modify seL (fun ev => { ev with other := some a.size })).modify
        seR (fun ev => { ev with other := some (a.size + 1) }) := rfl

theorem apply_divideArena {β : Type} (g : Ev → β) (hl : ∀ (e : Ev) (l : Bool), g { e with left := l } = g e)
    (ho : ∀ (e : Ev) (o : Option Nat), g { e with other := o } = g e) (a : Arena) (seL seR : Nat) (inter : Pt) (j : Nat) :
    g (divideArena a seL seR inter)[j]! = g (dividePush a seL seR inter)[j]! := by
  rw [divideArena_eq, apply_get!_modify g (ho · _), apply_get!_modify g (ho · _), apply_swapStage g hl]

theorem divideArena_size (a : Arena) (seL seR : Nat) (inter : Pt) : (divideArena a seL seR inter).size = a.size + 2 := by
  rw [divideArena_eq, Array.size_modify, Array.size_modify, swapStage_size, dividePush_size]

theorem divideArena_point (a : Arena) (seL seR : Nat) (inter : Pt) (i : Nat) :
    (divideArena a seL seR inter)[i]!.point = (dividePush a seL seR inter)[i]!.point :=
  apply_divideArena Ev.point (fun _ _ => rfl) (fun _ _ => rfl) a seL seR inter i

/-- the arena after `divide_segment(se_l, inter)`: two events at `inter` are appended; the old left event is
    paired with the new right event, the new left event with the old right event; all points of old events and all
    other pairings are unchanged -/
theorem divideArena_spec (a : Arena) (seL seR : Nat) (inter : Pt)
    (hL : seL < a.size) (hR : seR < a.size) (hne : seL ≠ seR) :
    (divideArena a seL seR inter).size = a.size + 2 ∧
    (∀ i, i < a.size → (divideArena a seL seR inter)[i]!.point = a[i]!.point) ∧
    (divideArena a seL seR inter)[a.size]!.point = inter ∧ (divideArena a seL seR inter)[a.size + 1]!.point = inter ∧
    (divideArena a seL seR inter)[seL]!.other = some a.size ∧ (divideArena a seL seR inter)[a.size]!.other = some seL ∧
    (divideArena a seL seR inter)[seR]!.other = some (a.size + 1) ∧ (divideArena a seL seR inter)[a.size + 1]!.other = some seR ∧
    (∀ i, i < a.size → i ≠ seL → i ≠ seR → (divideArena a seL seR inter)[i]!.other = a[i]!.other) := by
  refine ⟨divideArena_size .., fun i hi => by rw [divideArena_point, dividePush_old hi],
    by rw [divideArena_point, dividePush_fst], by rw [divideArena_point, dividePush_snd], ?_⟩
  -- the pairings: the two `other` writes on top of the swap stage, which keeps every `other`
  have hc := apply_swapStage Ev.other (fun _ _ => rfl) (dividePush a seL seR inter) (a.size + 1) seR
  have hcs : (swapStage (dividePush a seL seR inter) (a.size + 1) seR).size = a.size + 2 := by
    rw [swapStage_size, dividePush_size]
  rw [divideArena_eq]
  generalize swapStage (dividePush a seL seR inter) (a.size + 1) seR = c at hc hcs ⊢
  have hL1 := Nat.lt_succ_of_lt hL
  have hR1 := Nat.lt_succ_of_lt hR
  refine ⟨?_, ?_, ?_, ?_, ?_⟩
  · rw [get!_modify_ne (Ne.symm hne), get!_modify_self (hcs ▸ Nat.lt_succ_of_lt hL1)]
  · rw [get!_modify_ne (Nat.ne_of_lt hR), get!_modify_ne (Nat.ne_of_lt hL), hc, dividePush_fst]
  · rw [get!_modify_self ((Array.size_modify ..).trans hcs ▸ Nat.lt_succ_of_lt hR1)]
  · rw [get!_modify_ne (Nat.ne_of_lt hR1), get!_modify_ne (Nat.ne_of_lt hL1), hc, dividePush_snd]
  · intro i hi h1 h2
    rw [get!_modify_ne (Ne.symm h2), get!_modify_ne (Ne.symm h1), hc, dividePush_old hi]

/-- `divideArena_spec` with names, and the flags: `b` is `a` after `divide_segment(se_l, p)` with `se_l` paired with
    `se_r`, as far as the skeleton goes (the new right event at `a.size`, the new left event at `a.size + 1`) -/
structure Divided (a : Arena) (seL seR : Nat) (p : Pt) (b : Arena) : Prop where
  pair : a[seL]!.other = some seR
  seL_lt : seL < a.size
  seR_lt : seR < a.size
  size : b.size = a.size + 2
  point_old : ∀ i, i < a.size → b[i]!.point = a[i]!.point
  point_r : b[a.size]!.point = p
  point_l : b[a.size + 1]!.point = p
  other_seL : b[seL]!.other = some a.size
  other_r : b[a.size]!.other = some seL
  other_seR : b[seR]!.other = some (a.size + 1)
  other_l : b[a.size + 1]!.other = some seR
  other_old : ∀ i, i < a.size → i ≠ seL → i ≠ seR → b[i]!.other = a[i]!.other
  flags_old : ∀ i, i < a.size → b[i]!.flags = a[i]!.flags
  flags_r : b[a.size]!.flags = a[seL]!.flags
  flags_l : b[a.size + 1]!.flags = a[seL]!.flags

theorem divideArena_divided {a : Arena} {seL seR : Nat} (inter : Pt) (hoth : a[seL]!.other = some seR)
    (hR : seR < a.size) (hne : seL ≠ seR) : Divided a seL seR inter (divideArena a seL seR inter) := by
  have hL := other_some_lt hoth
  obtain ⟨h1, h2, h3, h4, h5, h6, h7, h8, h9⟩ := divideArena_spec a seL seR inter hL hR hne
  have fl := apply_divideArena Ev.flags (fun _ _ => rfl) (fun _ _ => rfl) a seL seR inter
  refine ⟨hoth, hL, hR, h1, h2, h3, h4, h5, h6, h7, h8, h9, fun i hi => by rw [fl, dividePush_old hi], ?_, ?_⟩
  · rw [fl, dividePush_fst]
    rfl
  · rw [fl, dividePush_snd]
    rfl

theorem bumped_exact (a : Arena) (seL : Nat) (inter : Pt) : bumped Arith.exact a seL inter = inter :=
  ite_self inter

theorem divided_size (ar : Arith) (st : SwSt) (seL seR : Nat) (inter : Pt) :
    (divided ar st seL seR inter).arena.size = st.arena.size + 2 := by
  rw [divided_arena, divideArena_size]

theorem divideSegment_ok {ar : Arith} {cfg : Cfg} {st st' : SwSt} {seL : Nat} {inter : Pt}
    (h : divideSegment ar cfg st seL inter = .ok st') :
    (st.arena[seL]!.other = none ∧ st' = st) ∨
      ∃ seR, st.arena[seL]!.other = some seR ∧ st' = divided ar st seL seR inter := by
  rw [divideSegment_eq] at h
  obtain ⟨_, h⟩ := of_ite_ne h nofun
  cases hoth : st.arena[seL]!.other with
  | none =>
    rw [hoth] at h
    exact .inl ⟨rfl, (Except.ok.inj h).symm⟩
  | some seR =>
    rw [hoth] at h
    obtain ⟨_, h⟩ := of_ite_ne h nofun
    exact .inr ⟨seR, rfl, (Except.ok.inj h).symm⟩

theorem divideSegment_arena {P : Arena → Prop} {ar : Arith} {cfg : Cfg} {st st' : SwSt} {seL : Nat} {inter : Pt}
    (h : divideSegment ar cfg st seL inter = .ok st')
    (hd : ∀ seR, st.arena[seL]!.other = some seR → P (divideArena st.arena seL seR (bumped ar st.arena seL inter)))
    (h0 : P st.arena) : P st'.arena := by
  obtain ⟨_, rfl⟩ | ⟨seR, hoth, rfl⟩ := divideSegment_ok h
  · exact h0
  · rw [divided_arena]
    exact hd seR hoth

theorem divideSegment_exact_arena {cfg : Cfg} {st st' : SwSt} {seL seR : Nat} {inter : Pt}
    (h : divideSegment Arith.exact cfg st seL inter = .ok st') (hoth : st.arena[seL]!.other = some seR) :
    st'.arena = divideArena st.arena seL seR inter := by
  obtain ⟨h0, _⟩ | ⟨seR', h1, rfl⟩ := divideSegment_ok h
  · cases hoth.symm.trans h0
  · rw [divided_arena, bumped_exact, Option.some.inj (hoth.symm.trans h1)]

/-- the arena after the crossing branch: divide `se1` at `p` if `p` is interior to it, then `se2` likewise -/
def crossArena (a : Arena) (se1 o1 se2 o2 : Nat) (p : Pt) : Arena :=
  let a1 := if a[se1]!.point ≠ p ∧ a[o1]!.point ≠ p then divideArena a se1 o1 p else a
  if a[se2]!.point ≠ p ∧ a[o2]!.point ≠ p then divideArena a1 se2 o2 p else a1

theorem optDivide_exact_arena {cfg : Cfg} {st st' : SwSt} {se o : Nat} {p : Pt} {c : Prop} [Decidable c]
    (h : optDivide Arith.exact cfg c st se p = .ok st') (ho : st.arena[se]!.other = some o) :
    st'.arena = if c then divideArena st.arena se o p else st.arena := by
  obtain ⟨hc, h⟩ | ⟨hc, h⟩ := of_ite_eq h
  · rw [if_pos hc]
    exact divideSegment_exact_arena h ho
  · rw [if_neg hc, pure_ok h]

end Gbo
