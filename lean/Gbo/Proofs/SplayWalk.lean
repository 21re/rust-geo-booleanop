import Gbo.Proofs.SplayOps
/-
  The walks that do not splay: successor / predecessor (`succWalk_spec`, `predWalk_spec`: the reference answer `or`
  the pending candidate), min / max, and one step of the consuming iterators from either end.
-/
namespace Gbo
namespace Tree
variable {K V : Type} {cmp : K → K → Ordering}

theorem succWalk_spec (h : LawfulCmp cmp) (key : K) (t : Tree K V) (hb : Bst cmp t) (acc : Option (K × V)) :
    succWalk cmp key t acc = (sNext cmp key (inorder t)).or acc := by
  induction t generalizing acc with
  | nil => rfl
  | node l k v r ihl ihr =>
    obtain ⟨hbl, hbr, hlk, -, -⟩ := (bst_node_iff ..).1 hb
    -- unless `k` is above `key`, nothing left of it is
    have hnone (hc : cmp key k ≠ .lt) : (inorder l).find? (fun x => cmp key x.1 == .lt) = none :=
      List.find?_eq_none.2 fun x hx => by simp [allLt_of_ne_lt h hc hlk x hx]
    -- `sNext` is `find?`, which goes through `inorder l` first, then `(k, v)`, then `inorder r`: if `k` is above `key` it
    -- is the candidate behind `l` (and the walk carries it as `acc`); otherwise `l` holds none, `k` is passed over
    cases hc : cmp key k
    · simp [succWalk, sNext, inorder, hc, ihl hbl]
    · simp [succWalk, sNext, inorder, hc, ihr hbr, hnone]
    · simp [succWalk, sNext, inorder, hc, ihr hbr, hnone]

theorem predWalk_spec (h : LawfulCmp cmp) (key : K) (t : Tree K V) (hb : Bst cmp t) (acc : Option (K × V)) :
    predWalk cmp key t acc = (sPrev cmp key (inorder t)).or acc := by
  induction t generalizing acc with
  | nil => rfl
  | node l k v r ihl ihr =>
    obtain ⟨hbl, hbr, -, hkr, -⟩ := (bst_node_iff ..).1 hb
    -- unless `k` is below `key`, nothing right of it is
    have hnil (hc : cmp key k ≠ .gt) : (inorder r).filter (fun x => cmp key x.1 == .gt) = [] :=
      List.filter_eq_nil_iff.2 fun x hx => by simp [allGt_of_ne_gt h hc hkr x hx]
    -- `sPrev` is the last entry that passes the filter, looked for in `inorder r` first, then `(k, v)`, then
    -- `inorder l`: if `k` is below `key` it is the candidate before `r`; otherwise `r` holds none, `k` is passed over
    cases hc : cmp key k
    · simp [predWalk, sPrev, inorder, hc, ihl hbl, hnil]
    · simp [predWalk, sPrev, inorder, hc, ihl hbl, hnil]
    · simp [predWalk, sPrev, inorder, hc, ihr hbr, List.getLast?_append, List.getLast?_cons]

theorem minKey_spec (t : Tree K V) : minKey t = (inorder t).head?.map (·.1) := by
  fun_induction minKey t with
  | case1 => rfl
  | case2 k v r => rfl
  | case3 a b c d k v r ih => simp [ih, inorder, List.head?_append]

theorem maxKey_spec (t : Tree K V) : maxKey t = (inorder t).getLast?.map (·.1) := by
  fun_induction maxKey t with
  | case1 => rfl
  | case2 l k v => simp [inorder]
  | case3 l k v a b c d ih => simp [ih, inorder, List.getLast?_append, List.getLast?_cons]

theorem iterNextLoop_spec (l : Tree K V) (k : K) (v : V) (r : Tree K V) :
    let res := iterNextLoop l k v r
    (res.1, res.2.1) :: inorder res.2.2 = inorder l ++ (k, v) :: inorder r := by
  fun_induction iterNextLoop l k v r with
  | case1 => rfl
  | case2 ll lk lv lr k v r ih => exact Eq.trans ih (List.append_assoc (inorder ll) ((lk, lv) :: inorder lr) ((k, v) :: inorder r)).symm

theorem iterBackLoop_spec (l : Tree K V) (k : K) (v : V) (r : Tree K V) :
    let res := iterBackLoop l k v r
    inorder res.2.2 ++ [(res.1, res.2.1)] = inorder l ++ (k, v) :: inorder r := by
  fun_induction iterBackLoop l k v r with
  | case1 => rfl
  | case2 l k v rl rk rv rr ih => exact Eq.trans ih (List.append_assoc (inorder l) ((k, v) :: inorder rl) ((rk, rv) :: inorder rr))

end Tree

namespace TreeIter
open Tree
variable {K V : Type}

theorem next_spec (it : TreeIter K V) (hrem : it.remaining = (inorder it.cur).length) :
    it.next.2 = (inorder it.cur).head? ∧ inorder it.next.1.cur = (inorder it.cur).tail
    ∧ it.next.1.remaining = (inorder it.next.1.cur).length := by
  obtain ⟨cur, rem⟩ := it
  cases cur with
  | nil => exact ⟨rfl, rfl, hrem⟩
  | node l k v r =>
    have hsp : _ = inorder (node l k v r) := iterNextLoop_spec l k v r
    dsimp only at hrem
    subst hrem
    rw [← hsp]
    exact ⟨rfl, rfl, rfl⟩

theorem nextBack_spec (it : TreeIter K V) (hrem : it.remaining = (inorder it.cur).length) :
    it.nextBack.2 = (inorder it.cur).getLast? ∧ inorder it.nextBack.1.cur = (inorder it.cur).dropLast
    ∧ it.nextBack.1.remaining = (inorder it.nextBack.1.cur).length := by
  obtain ⟨cur, rem⟩ := it
  cases cur with
  | nil => exact ⟨rfl, rfl, hrem⟩
  | node l k v r =>
    have hsp : _ = inorder (node l k v r) := iterBackLoop_spec l k v r
    dsimp only at hrem
    subst hrem
    rw [← hsp]
    exact ⟨List.getLast?_concat.symm, List.dropLast_concat.symm, by simp [TreeIter.nextBack]⟩

end TreeIter
end Gbo
