import Gbo.Proofs.FillFold
import Gbo.Proofs.SweepWalk
/-
  The queue through the sweep.  Index validity: every entry of the queue and of `sorted_events` is an index into
  the arena.  Conservation of events: at every moment every event of the arena is either still in the queue or
  already recorded in `sorted_events`, exactly once in total.  What is queued or recorded (`heap ++ sorted`) changes
  in two ways only: `divide_segment` queues the two new events (`push2_perm`); popping an event and recording it
  changes nothing (`record_perm`).
-/
namespace Gbo

theorem range_push2 (n : Nat) : ((Array.range n).push n).push (n + 1) = Array.range (n + 1 + 1) := by
  simp [Array.range_succ]

theorem push_append_perm (h s : Array Nat) (x : Nat) : (h.push x ++ s).Perm ((h ++ s).push x) := by
  simp only [Array.perm_iff_toList_perm, Array.toList_append, Array.toList_push, List.append_assoc]
  exact List.Perm.append_left _ List.perm_append_comm

theorem push2_perm (le : Nat → Nat → Bool) (h s : Array Nat) (n : Nat) :
    (Heap.push le (Heap.push le h (n + 1)) n ++ s).Perm (((h ++ s).push n).push (n + 1)) :=
  ((((Heap.push_perm _ _ _).trans ((Heap.push_perm _ _ _).push _)).append .rfl).trans
    ((push_append_perm _ _ _).trans ((push_append_perm _ _ _).push _))).trans (Array.Perm.push_comm _ _ .rfl)

theorem record_perm {le : Nat → Nat → Bool} {h hp s : Array Nat} {e : Nat} (hpop : Heap.pop le h = some (e, hp)) :
    (hp ++ s.push e).Perm (h ++ s) := by
  rw [Array.append_push]
  exact (push_append_perm hp s e).symm.trans ((Heap.pop_perm hpop).append .rfl)

def StateOk (st : SwSt) : Prop := ∀ x ∈ st.heap ++ st.sorted, x < st.arena.size

theorem stateOk_stepInv (ar : Arith) (cfg : Cfg) : StepInv ar cfg StateOk :=
  .of_sizes (J := fun n h s => ∀ x ∈ h ++ s, x < n)
    (fun _ hs x hx => forall_mem_push (forall_mem_push (fun x hx => Nat.lt_add_right 2 (hs x hx))
      (Nat.lt_succ_of_lt (Nat.lt_succ_self _))) (Nat.lt_succ_self _) x ((push2_perm ..).mem_iff.mp hx))
    fun hpop hs x hx => hs x ((record_perm hpop).mem_iff.mp hx)

/-- `hq` holds of the queue `fill_queue` builds: `fillQueue_valid` -/
theorem subdivide_sorted_valid (ar : Arith) (cfg : Cfg) (fq : FQ) (sb cb : BBox) (op : Op) (sw : SweepOut)
    (h : subdivide ar cfg fq sb cb op = .ok sw) (hq : ∀ x, x ∈ fq.heap.toList → x < fq.arena.size) :
    ∀ x, x ∈ sw.sorted.toList → x < sw.arena.size := by
  obtain ⟨st, h1, _, rfl⟩ := subdivide_inv (stateOk_stepInv ar cfg) h
    (fun x hx => hq x (Array.mem_toList_iff.mpr (by simpa using hx)))
  exact fun x hx => h1 x (Array.mem_append_right _ (Array.mem_toList_iff.mp hx))

/-- the queue holds every index of the arena exactly once and nothing else -/
def HeapOnce (fq : FQ) : Prop := fq.heap.Perm (Array.range fq.arena.size)

theorem processLine_once {subj : Bool} {cid : Nat} {ext : Bool} {st : FQ × Option BBox} {s e : Pt}
    (h : HeapOnce st.1) : HeapOnce (processLine subj cid ext st s e).1 := by
  rw [processLine_eq]
  split
  · exact h
  · unfold HeapOnce
    simp only [Array.size_push, ← range_push2]
    exact (Heap.push_perm _ _ _).trans (((Heap.push_perm _ _ _).trans (h.push _)).push _)

theorem fillQueue_once (a b : MPoly) (op : Op) : HeapOnce (fillQueue a b op).fq :=
  fillQueue_inv a b op (fun _ _ _ _ _ _ _ _ h => processLine_once h) .rfl

def HeapValid (fq : FQ) : Prop := ∀ x, x ∈ fq.heap.toList → x < fq.arena.size

theorem fillQueue_valid (a b : MPoly) (op : Op) : HeapValid (fillQueue a b op).fq := fun _ hx =>
  Array.mem_range.mp ((fillQueue_once a b op).mem_iff.mp (Array.mem_toList_iff.mp hx))

/-- every event of the arena is in the queue or in `sorted_events`, once in total; nothing else is -/
def Once (st : SwSt) : Prop := (st.heap ++ st.sorted).Perm (Array.range st.arena.size)

theorem once_stepInv (ar : Arith) (cfg : Cfg) : StepInv ar cfg Once :=
  .of_sizes (J := fun n h s => (h ++ s).Perm (Array.range n))
    (fun le h => by
      rw [← range_push2]
      exact (push2_perm ..).trans ((h.push _).push _))
    fun hpop h => (record_perm hpop).trans h

theorem subdivide_once {ar : Arith} {cfg : Cfg} {fq : FQ} {sb cb : BBox} {op : Op} {sw : SweepOut}
    (h : subdivide ar cfg fq sb cb op = .ok sw) (hq : HeapOnce fq) :
    ∃ st : SwSt, Once st ∧ (noExit op → st.heap.size = 0) ∧ sw = sweepOut st :=
  subdivide_inv (once_stepInv ar cfg) h (by simpa [Once, HeapOnce] using hq)

end Gbo
