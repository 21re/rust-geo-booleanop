import Gbo.Proofs.Basics
import Gbo.Model.Sweep
/-
  `fill_queue` is a fold of `processLine` over the lines of the operands' rings: a predicate on the queue under
  construction that every `processLine` (between two vertices of the operands) preserves holds for the result.
-/
namespace Gbo

def VertexOf (ps : List Poly) (p : Pt) : Prop := ∃ poly, poly ∈ ps ∧ ∃ ring, ring ∈ poly.ext :: poly.holes ∧ p ∈ ring

/-- `LineString::lines()` without the collapsed lines, which `process_polygon` skips -/
def ringLines : Ring → List (Pt × Pt)
  | p :: q :: rest => if p = q then ringLines (q :: rest) else (p, q) :: ringLines (q :: rest)
  | _ => []

theorem ringLines_cons_cons (p q : Pt) (rest : List Pt) :
    ringLines (p :: q :: rest) = (if p = q then [] else [(p, q)]) ++ ringLines (q :: rest) := by
  rw [ringLines]
  split <;> rfl

theorem ringLines_mem {ring : Ring} {se : Pt × Pt} (h : se ∈ ringLines ring) :
    se.1 ∈ ring ∧ se.2 ∈ ring ∧ se.1 ≠ se.2 := by
  fun_induction ringLines ring with
  | case1 q rest ih => exact (ih h).imp (List.mem_cons_of_mem _) (And.imp_left (List.mem_cons_of_mem _))
  | case2 p q rest hpq ih =>
    rcases List.mem_cons.mp h with rfl | h
    · exact ⟨List.mem_cons_self, List.mem_cons_of_mem _ List.mem_cons_self, hpq⟩
    · exact (ih h).imp (List.mem_cons_of_mem _) (And.imp_left (List.mem_cons_of_mem _))
  | case3 => cases h

/-- `process_polygon`'s treatment of one line, with the pair of states read through projections -/
theorem processLine_eq (subj : Bool) (cid : Nat) (ext : Bool) (st : FQ × Option BBox) (s e : Pt) :
    processLine subj cid ext st s e = if s = e then st else
      let n := st.1.arena.size
      let a := (st.1.arena.push (mkPair n s e subj cid ext).1).push (mkPair n s e subj cid ext).2
      (⟨a, Heap.push (evLe a) (Heap.push (evLe a) st.1.heap n) (n + 1)⟩, bboxAdd st.2 s) :=
  rfl

theorem processLine_same (subj : Bool) (cid : Nat) (ext : Bool) (st : FQ × Option BBox) (p : Pt) :
    processLine subj cid ext st p p = st := by
  rw [processLine_eq, if_pos rfl]

theorem processLine_ne (subj : Bool) (cid : Nat) (ext : Bool) (st : FQ × Option BBox) {s e : Pt} (h : s ≠ e) :
    (processLine subj cid ext st s e).1.arena =
        (st.1.arena.push (mkPair st.1.arena.size s e subj cid ext).1).push (mkPair st.1.arena.size s e subj cid ext).2 ∧
      (processLine subj cid ext st s e).2 = bboxAdd st.2 s := by
  rw [processLine_eq, if_neg h]
  exact ⟨rfl, rfl⟩

/-- every fact about `processRing` is a fact about this fold -/
theorem processRing_eq (subj : Bool) (cid : Nat) (ext : Bool) : ∀ (ring : Ring) (st : FQ × Option BBox),
    processRing subj cid ext st ring = (ringLines ring).foldl (fun st se => processLine subj cid ext st se.1 se.2) st
  | [], _ | [_], _ => rfl
  | p :: q :: rest, st => by
    rw [processRing, ringLines, processRing_eq subj cid ext (q :: rest)]
    by_cases h : p = q
    · rw [if_pos h, h, processLine_same]
    · rw [if_neg h, List.foldl_cons]

section
variable {I : FQ → Prop} {V : Pt → Prop}
  (hline : ∀ (subj : Bool) (cid : Nat) (ext : Bool) (st : FQ × Option BBox) (s e : Pt),
    V s → V e → I st.1 → I (processLine subj cid ext st s e).1)
include hline

theorem processRing_inv (subj : Bool) (cid : Nat) (ext : Bool) (ring : Ring) (st : FQ × Option BBox)
    (hV : ∀ p ∈ ring, V p) (h : I st.1) : I (processRing subj cid ext st ring).1 := by
  rw [processRing_eq]
  exact foldl_inv (J := fun st => I st.1) (fun st se hse => hline subj cid ext st se.1 se.2
    (hV _ (ringLines_mem hse).1) (hV _ (ringLines_mem hse).2.1)) h

theorem processPolygon_inv (subj : Bool) (cid : Nat) (ext : Bool) (poly : Poly) (st : FQ × Option BBox)
    (hV : ∀ ring ∈ poly.ext :: poly.holes, ∀ p ∈ ring, V p) (h : I st.1) :
    I (processPolygon subj cid ext st poly).1 :=
  foldl_inv (J := fun st => I st.1)
    (fun st r hr => processRing_inv hline subj cid false r st (hV r (List.mem_cons_of_mem _ hr)))
    (processRing_inv hline subj cid ext poly.ext st (hV _ List.mem_cons_self) h)
end

theorem fillQueue_inv {I : FQ → Prop} (a b : MPoly) (op : Op)
    (hline : ∀ (subj : Bool) (cid : Nat) (ext : Bool) (st : FQ × Option BBox) (s e : Pt),
      VertexOf (a ++ b) s → VertexOf (a ++ b) e → I st.1 → I (processLine subj cid ext st s e).1)
    (h0 : I {}) : I (fillQueue a b op).fq := by
  refine foldl_inv (J := fun acc : Nat × FQ × Option BBox => I acc.2.1) (fun acc p hp h => ?_)
    (foldl_inv (J := fun acc : Nat × FQ × Option BBox => I acc.2.1) (fun acc p hp h => ?_) h0)
  · exact processPolygon_inv hline false _ _ p _
      (fun ring hr q hq => ⟨p, List.mem_append_right _ hp, ring, hr, hq⟩) h
  · exact processPolygon_inv hline true _ true p _
      (fun ring hr q hq => ⟨p, List.mem_append_left _ hp, ring, hr, hq⟩) h

end Gbo
