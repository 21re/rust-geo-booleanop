import Gbo.Proofs.Basics
import Gbo.Proofs.ComparatorC
import Gbo.Spec.Valid
/-
  The atom layout of a multipolygon (one atom per ring): read through it, the membership vector of a point
  evaluates to the structural and to the even-odd membership in the multipolygon.
-/
namespace Gbo.Spec
open Gbo

/-- hole atom by hole atom, the atom holds the edges of the ring -/
def HolesMatch (atoms : Array (List Seg)) : List Nat → List Ring → Prop :=
  List.Forall₂ (fun h r => atoms[h]? = some (ringEdges r))

def PolysMatch (atoms : Array (List Seg)) : List (Nat × List Nat) → MPoly → Prop :=
  List.Forall₂ (fun e p => atoms[e.1]? = some (ringEdges p.ext) ∧ HolesMatch atoms e.2 p.holes)

def Extends (a b : Array (List Seg)) : Prop := ∀ (i : Nat) (x : List Seg), a[i]? = some x → b[i]? = some x

theorem Extends.refl (a : Array (List Seg)) : Extends a a := fun _ _ h => h
theorem Extends.trans {a b c : Array (List Seg)} (h1 : Extends a b) (h2 : Extends b c) : Extends a c :=
  fun i x h => h2 i x (h1 i x h)
theorem extends_push (a : Array (List Seg)) (x : List Seg) : Extends a (a.push x) :=
  fun _ _ h => getElem?_push_of_some x h

theorem holesMatch_mono {a b : Array (List Seg)} (hab : Extends a b) {hs rs} (h : HolesMatch a hs rs) : HolesMatch b hs rs := by
  induction h with
  | nil => exact .nil
  | cons h _ ih => exact .cons (hab _ _ h) ih

theorem polysMatch_mono {a b : Array (List Seg)} (hab : Extends a b) {ps m} (h : PolysMatch a ps m) : PolysMatch b ps m := by
  induction h with
  | nil => exact .nil
  | cons h _ ih => exact .cons ⟨hab _ _ h.1, holesMatch_mono hab h.2⟩ ih

theorem holeFold_spec : ∀ (holes : List Ring) (acc : List Nat × Array (List Seg)),
    ∃ hs, (holes.foldl holeStep acc).1 = acc.1 ++ hs ∧ HolesMatch (holes.foldl holeStep acc).2 hs holes
      ∧ Extends acc.2 (holes.foldl holeStep acc).2
  | [], acc => ⟨[], (List.append_nil _).symm, .nil, .refl _⟩
  | r :: rs, acc => by
    obtain ⟨hs, h1, h2, h3⟩ := holeFold_spec rs (holeStep acc r)
    exact ⟨acc.2.size :: hs, h1.trans (List.append_assoc ..), .cons (h3 _ _ Array.getElem?_push_size) h2,
      (extends_push _ _).trans h3⟩

theorem polyFold_spec : ∀ (m : MPoly) (acc : Layout),
    ∃ ps, (m.foldl polyStep acc).polys = acc.polys ++ ps ∧ PolysMatch (m.foldl polyStep acc).atoms ps m
      ∧ Extends acc.atoms (m.foldl polyStep acc).atoms
  | [], acc => ⟨[], (List.append_nil _).symm, .nil, .refl _⟩
  | p :: ps, acc => by
    obtain ⟨hs, h1, h2, h3⟩ := holeFold_spec p.holes ([], acc.atoms.push (ringEdges p.ext))
    obtain ⟨qs, k1, k2, k3⟩ := polyFold_spec ps (polyStep acc p)
    refine ⟨(acc.atoms.size, hs) :: qs, k1.trans ?_, .cons ⟨k3 _ _ (h3 _ _ Array.getElem?_push_size), holesMatch_mono k3 h2⟩ k2,
      ((extends_push _ _).trans h3).trans k3⟩
    rw [polyStep, h1, List.append_assoc]
    rfl

theorem layout_spec (m : MPoly) (base : Array (List Seg)) :
    PolysMatch (layout m base).atoms (layout m base).polys m ∧ Extends base (layout m base).atoms := by
  obtain ⟨ps, h1, h2, h3⟩ := polyFold_spec m { polys := [], atoms := base }
  exact ⟨(h1.trans (List.nil_append ps)) ▸ h2, h3⟩

theorem get!_map_of_get? {atoms : Array (List Seg)} (q : Pt) {i : Nat} {es : List Seg} (h : atoms[i]? = some es) :
    (atoms.map (fun es => memEdges es q))[i]! = memEdges es q := by
  rw [get!_map (fun es => memEdges es q) rfl, get!_of_get? h]

theorem holes_eval {atoms : Array (List Seg)} (q : Pt) {hs rs} (hm : HolesMatch atoms hs rs) :
    hs.map (fun h => (atoms.map (fun es => memEdges es q))[h]!) = rs.map (fun r => memRing r q) := by
  induction hm with
  | nil => rfl
  | cons h _ ih => rw [List.map_cons, List.map_cons, get!_map_of_get? q h, ih]; rfl

theorem evalMP_spec {atoms : Array (List Seg)} (q : Pt) {ps m} (hm : PolysMatch atoms ps m) :
    ps.any (evalPoly (atoms.map (fun es => memEdges es q))) = memMP m q := by
  unfold memMP
  induction hm with
  | nil => rfl
  | cons h _ ih =>
    rw [List.any_cons, List.any_cons, ih]
    congr 1
    have := congrArg (List.all · (!·)) (holes_eval q h.2)
    simp only [List.all_map] at this
    simp only [evalPoly, memPoly]
    rw [get!_map_of_get? q h.1]
    exact congrArg _ this

theorem evalEO_spec {atoms : Array (List Seg)} (q : Pt) {ps m} (hm : PolysMatch atoms ps m) :
    parity (ps.flatMap (fun p => (p.1 :: p.2).map (fun a => (atoms.map (fun es => memEdges es q))[a]!))) = memEO m q := by
  unfold memEO
  induction hm with
  | nil => rfl
  | cons h _ ih =>
    rw [List.flatMap_cons, List.flatMap_cons, parity_append, parity_append, ih, List.map_cons, List.map_cons,
      get!_map_of_get? q h.1, holes_eval q h.2]
    rfl

theorem evalMP_layout (m : MPoly) (base : Array (List Seg)) {atoms : Array (List Seg)}
    (h : Extends (layout m base).atoms atoms) (q : Pt) :
    evalMP (atoms.map (fun es => memEdges es q)) (layout m base) = memMP m q :=
  evalMP_spec q (polysMatch_mono h (layout_spec m base).1)

theorem evalEO_layout (m : MPoly) (base : Array (List Seg)) {atoms : Array (List Seg)}
    (h : Extends (layout m base).atoms atoms) (q : Pt) :
    evalEO (atoms.map (fun es => memEdges es q)) (layout m base) = memEO m q :=
  evalEO_spec q (polysMatch_mono h (layout_spec m base).1)

theorem memEdges_opEdges (m : MPoly) (q : Pt) : memEdges (opEdges m) q = memEO m q := by
  unfold memEdges opEdges allRings
  rw [List.map_flatMap, parity_flatMap, List.map_flatMap]
  rfl

theorem c01Formula_at (a b r : MPoly) (op : Op) (q : Pt) :
    c01Formula op (c01Layout a b r) ((c01Layout a b r).atoms.map (fun es => memEdges es q))
      = (memMP r q == opSem op (memEO a q) (memEO b q)) := by
  unfold c01Formula c01Layout
  have hext := (layout_spec r #[opEdges a, opEdges b]).2
  rw [evalMP_layout r _ (.refl _) q, get!_map_of_get? q (hext 0 (opEdges a) rfl), memEdges_opEdges,
    get!_map_of_get? q (hext 1 (opEdges b) rfl), memEdges_opEdges]

end Gbo.Spec
