import Gbo.Proofs.SweepWalk
import Gbo.Proofs.FillQueue
/-
  The pairs of the arena: every linked event is linked back by its partner (`e.other.other = e`), and the two events
  of a pair carry the same operand flag and contour id.  Both hold in the arena `fill_queue` builds and survive
  `divide_segment`'s arena update, hence the whole sweep, for every arithmetic.
-/
namespace Gbo

def MutualLinks (a : Arena) : Prop :=
  ∀ i, i < a.size → ∀ o, a[i]!.other = some o → o < a.size ∧ o ≠ i ∧ a[o]!.other = some i

/-- the bounds take care of themselves: an event that links back exists -/
theorem MutualLinks.of_back {a : Arena} (h : ∀ i o : Nat, a[i]!.other = some o → o ≠ i ∧ a[o]!.other = some i) :
    MutualLinks a :=
  fun i _ o ho => ⟨other_some_lt (h i o ho).2, h i o ho⟩

theorem MutualLinks.of_skel {a b : Arena} (hl : MutualLinks a) (h : SameSkel a b) : MutualLinks b := by
  intro i hi o ho
  rw [h.1] at hi ⊢
  rw [h.other] at ho ⊢
  exact hl i hi o ho

def PairFlags (a : Arena) : Prop :=
  ∀ i, i < a.size → ∀ o, a[i]!.other = some o →
    a[o]!.isSubject = a[i]!.isSubject ∧ a[o]!.contourId = a[i]!.contourId

theorem PairFlags.flags {a : Arena} (hf : PairFlags a) {i o : Nat} (ho : a[i]!.other = some o) :
    a[o]!.flags = a[i]!.flags :=
  Prod.ext (hf i (other_some_lt ho) o ho).1 (hf i (other_some_lt ho) o ho).2

theorem PairFlags.of_flags {a : Arena} (h : ∀ i o : Nat, a[i]!.other = some o → a[o]!.flags = a[i]!.flags) :
    PairFlags a :=
  fun i _ o ho => ⟨congrArg Prod.fst (h i o ho), congrArg Prod.snd (h i o ho)⟩

theorem PairFlags.of_skel {a b : Arena} (hf : PairFlags a) (h : SameSkel a b) : PairFlags b :=
  .of_flags fun i o ho => (h.flags o).trans ((hf.flags (h.other i ▸ ho)).trans (h.flags i).symm)

/-- joint invariant: that equal flags survive a division needs the linking (`Divided.pairs`) -/
def LinkedFlags (a : Arena) : Prop := MutualLinks a ∧ PairFlags a

theorem MutualLinks.divided {a : Arena} {seL seR : Nat} (hl : MutualLinks a) (hoth : a[seL]!.other = some seR) (p : Pt) :
    Divided a seL seR p (divideArena a seL seR p) :=
  divideArena_divided p hoth (hl seL (other_some_lt hoth) seR hoth).1
    (Ne.symm (hl seL (other_some_lt hoth) seR hoth).2.1)

section
variable {a b : Arena} {seL seR : Nat} {p : Pt}

/-- `divide_segment` re-pairs `seL` with the new right event and the new left event with `seR`; every other pair is a
    pair of untouched old events.  So what holds of the linked pairs of `a` (`Φ`) gives what holds of those of `b` (`Ψ`)
    if `Ψ` holds of the four new links and follows from `Φ` for untouched pairs. -/
theorem Divided.pairs {Φ Ψ : Nat → Nat → Prop} (d : Divided a seL seR p b) (hl : MutualLinks a)
    (hΦ : ∀ i o, a[i]!.other = some o → Φ i o)
    (frame : ∀ i o, i < a.size → o < a.size → i ≠ seL → i ≠ seR → o ≠ seL → o ≠ seR → Φ i o → Ψ i o)
    (new : Ψ seL a.size ∧ Ψ a.size seL ∧ Ψ seR (a.size + 1) ∧ Ψ (a.size + 1) seR) :
    ∀ i o, b[i]!.other = some o → Ψ i o := by
  have hback := (hl seL d.seL_lt seR d.pair).2.2
  intro i o ho
  rcases lt_add_two_cases (d.size ▸ other_some_lt ho) with hi | rfl | rfl
  · by_cases h1 : i = seL
    · subst h1
      obtain rfl := Option.some.inj (ho.symm.trans d.other_seL)
      exact new.1
    by_cases h2 : i = seR
    · subst h2
      obtain rfl := Option.some.inj (ho.symm.trans d.other_seR)
      exact new.2.2.1
    rw [d.other_old i hi h1 h2] at ho
    obtain ⟨ho1, _, ho3⟩ := hl i hi o ho
    refine frame i o hi ho1 h1 h2 ?_ ?_ (hΦ i o ho)
    · rintro rfl
      exact h2 (Option.some.inj (ho3.symm.trans d.pair))
    · rintro rfl
      exact h1 (Option.some.inj (ho3.symm.trans hback))
  · obtain rfl := Option.some.inj (ho.symm.trans d.other_r)
    exact new.2.1
  · obtain rfl := Option.some.inj (ho.symm.trans d.other_l)
    exact new.2.2.2

theorem Divided.links (d : Divided a seL seR p b) (hl : MutualLinks a) : MutualLinks b :=
  .of_back (d.pairs hl (fun i o ho => (hl i (other_some_lt ho) o ho).2)
    (fun _ o _ ho _ _ h3 h4 g => ⟨g.1, (d.other_old o ho h3 h4).trans g.2⟩)
    ⟨⟨Nat.ne_of_gt d.seL_lt, d.other_r⟩, ⟨Nat.ne_of_lt d.seL_lt, d.other_seL⟩,
      ⟨Nat.ne_of_gt (Nat.lt_succ_of_lt d.seR_lt), d.other_l⟩, ⟨Nat.ne_of_lt (Nat.lt_succ_of_lt d.seR_lt), d.other_seR⟩⟩)

theorem Divided.pairFlags (d : Divided a seL seR p b) (hl : MutualLinks a) (hf : PairFlags a) : PairFlags b :=
  .of_flags (d.pairs hl (fun _ _ => hf.flags)
    (fun i o hi ho _ _ _ _ h => (d.flags_old o ho).trans (h.trans (d.flags_old i hi).symm))
    ⟨d.flags_r.trans (d.flags_old seL d.seL_lt).symm, (d.flags_old seL d.seL_lt).trans d.flags_r.symm,
      (d.flags_l.trans (hf.flags d.pair).symm).trans (d.flags_old seR d.seR_lt).symm,
      (d.flags_old seR d.seR_lt).trans ((hf.flags d.pair).trans d.flags_l.symm)⟩)

end

theorem mutualLinks_stable (ar : Arith) : SweepStable ar MutualLinks :=
  .of_skel ar MutualLinks.of_skel fun hoth hl => (hl.divided hoth _).links hl

theorem linkedFlags_stable (ar : Arith) : SweepStable ar LinkedFlags :=
  .of_skel ar (fun h hs => ⟨h.1.of_skel hs, h.2.of_skel hs⟩) fun hoth h =>
    ⟨(h.1.divided hoth _).links h.1, (h.1.divided hoth _).pairFlags h.1 h.2⟩

theorem pair_index {i n : Nat} (hn : n % 2 = 0) (hi : i < n) : ∃ k, 2 * k + 1 < n ∧ (i = 2 * k ∨ i = 2 * k + 1) :=
  ⟨i / 2, by omega⟩

theorem Paired.partner {a : Arena} (h : Paired a) {i : Nat} (hi : i < a.size) :
    ∃ j, j < a.size ∧ j ≠ i ∧ a[i]!.other = some j ∧ a[j]!.other = some i ∧
      a[j]!.isSubject = a[i]!.isSubject ∧ a[j]!.contourId = a[i]!.contourId := by
  obtain ⟨k, hk, hcase⟩ := pair_index h.1 hi
  obtain ⟨e1, e2, g1, g2, o1, o2, _, _, _, _, hs, hc⟩ := h.2 k hk
  obtain rfl := get!_of_get? g1
  obtain rfl := get!_of_get? g2
  rcases hcase with rfl | rfl
  · exact ⟨2 * k + 1, hk, Nat.succ_ne_self _, o1, o2, hs.symm, hc.symm⟩
  · exact ⟨2 * k, Nat.lt_of_succ_lt hk, (Nat.succ_ne_self _).symm, o2, o1, hs, hc⟩

theorem Paired.mutualLinks {a : Arena} (h : Paired a) : MutualLinks a := by
  intro i hi o ho
  obtain ⟨j, h1, h2, h3, h4, _⟩ := h.partner hi
  obtain rfl := Option.some.inj (h3.symm.trans ho)
  exact ⟨h1, h2, h4⟩

theorem fillQueue_links (a b : MPoly) (op : Op) : MutualLinks (fillQueue a b op).fq.arena :=
  (fillQueue_spec a b op).1.mutualLinks

theorem Paired.pairFlags {a : Arena} (h : Paired a) : PairFlags a := by
  intro i hi o ho
  obtain ⟨j, _, _, h3, _, h5⟩ := h.partner hi
  obtain rfl := Option.some.inj (h3.symm.trans ho)
  exact h5

end Gbo
