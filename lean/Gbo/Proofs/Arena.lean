import Gbo.Model.Sweep
import Gbo.Proofs.Basics
/-
  What the invariants of the sweep read of the event arena, and the predicates they are stated with.  The sweep's
  bookkeeping (`compute_fields`, the edge-type marking) rewrites flags only: it keeps the skeleton of every event
  (`SameSkel`), hence every predicate here.
-/
namespace Gbo

/-- an event that names a partner exists: beyond the end `a[i]!` is the default event, which names none -/
theorem other_some_lt {a : Arena} {i o : Nat} (h : a[i]!.other = some o) : i < a.size := by
  by_cases hi : i < a.size
  · exact hi
  · rw [getElem!_neg a i hi] at h
    cases h

/-- the part of an event the invariants speak of; the sweep's bookkeeping (`compute_fields`, the edge-type marking)
    never rewrites it -/
def Ev.skel (e : Ev) : Pt × Option Nat × Bool × Nat := (e.point, e.other, e.isSubject, e.contourId)

/-- what the two events of a pair share -/
def Ev.flags (e : Ev) : Bool × Nat := (e.isSubject, e.contourId)

/-- `a` is the arena before, `b` the arena after -/
def SameSkel (a b : Arena) : Prop := b.size = a.size ∧ ∀ j : Nat, b[j]!.skel = a[j]!.skel

/-- give `hf` after the goal has fixed `f` (`refine .modify ?_`): elaborated first, `fun _ => rfl` makes `f` the identity -/
theorem SameSkel.modify {a : Arena} {i : Nat} {f : Ev → Ev} (hf : ∀ e, (f e).skel = e.skel) :
    SameSkel a (a.modify i f) :=
  ⟨Array.size_modify .., fun j => apply_get!_modify Ev.skel hf⟩

theorem SameSkel.trans {a b c : Arena} (h1 : SameSkel a b) (h2 : SameSkel b c) : SameSkel a c :=
  ⟨h2.1.trans h1.1, fun j => (h2.2 j).trans (h1.2 j)⟩

theorem SameSkel.point {a b : Arena} (h : SameSkel a b) (j : Nat) : b[j]!.point = a[j]!.point :=
  congrArg (·.1) (h.2 j)

theorem SameSkel.other {a b : Arena} (h : SameSkel a b) (j : Nat) : b[j]!.other = a[j]!.other :=
  congrArg (·.2.1) (h.2 j)

theorem SameSkel.flags {a b : Arena} (h : SameSkel a b) (j : Nat) : b[j]!.flags = a[j]!.flags :=
  congrArg (·.2.2) (h.2 j)

theorem computeFields_skel (a : Arena) (e : Nat) (prev : Option Nat) (op : Op) :
    SameSkel a (computeFields a e prev op) :=
  .modify fun _ => rfl

theorem markCoincident_skel (a : Arena) (se1 se2 : Nat) : SameSkel a (markCoincident a se1 se2) := by
  unfold markCoincident
  refine .trans (.modify ?_) (.modify ?_)
  · exact fun _ => rfl
  · exact fun _ => rfl

theorem markCoincident_point (a : Arena) (se1 se2 j : Nat) : (markCoincident a se1 se2)[j]!.point = a[j]!.point :=
  (markCoincident_skel a se1 se2).point j

def PointsIn (a : Arena) (Q : Pt → Prop) : Prop := ∀ i, i < a.size → Q a[i]!.point

theorem PointsIn.of_skel {a b : Arena} {Q : Pt → Prop} (hp : PointsIn a Q) (h : SameSkel a b) : PointsIn b Q :=
  fun j hj => h.point j ▸ hp j (h.1 ▸ hj)

theorem PointsIn.push2 {a : Arena} {Q : Pt → Prop} {e1 e2 : Ev} (h : PointsIn a Q) (h1 : Q e1.point) (h2 : Q e2.point) :
    PointsIn ((a.push e1).push e2) Q := by
  intro i hi
  rw [Array.size_push, Array.size_push] at hi
  rcases lt_add_two_cases hi with hi | rfl | rfl
  · rw [get!_push2_lt hi]
    exact h i hi
  · rwa [get!_push2_fst]
  · rwa [get!_push2_snd]

/-- relative to a reference arena `a0`: nothing is removed and no event of `a0` has changed its point -/
def Keeps (a0 a : Arena) : Prop := a0.size ≤ a.size ∧ ∀ i, i < a0.size → a[i]!.point = a0[i]!.point

theorem Keeps.refl (a : Arena) : Keeps a a := ⟨Nat.le_refl _, fun _ _ => rfl⟩

theorem Keeps.trans {a b c : Arena} (h1 : Keeps a b) (h2 : Keeps b c) : Keeps a c :=
  ⟨Nat.le_trans h1.1 h2.1, fun i hi => (h2.2 i (Nat.lt_of_lt_of_le hi h1.1)).trans (h1.2 i hi)⟩

theorem SameSkel.keeps {a b : Arena} (h : SameSkel a b) : Keeps a b :=
  ⟨Nat.le_of_eq h.1.symm, fun i _ => h.point i⟩

end Gbo
