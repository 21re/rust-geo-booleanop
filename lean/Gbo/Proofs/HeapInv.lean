import Gbo.Proofs.HeapMem
/-
  std::collections::BinaryHeap as modelled in `Gbo.Model.Heap` (sift_up, sift_down_to_bottom with a hole): for a
  comparison that is a total preorder on the elements in use, `push` and `pop` keep the heap invariant and `pop`
  returns a greatest element, so draining the queue lists it in non-increasing order: the events come out in sweep
  order when nothing is pushed in between.  Both loops keep one invariant, `Hole`.
-/
namespace Gbo.Heap

variable (le : Nat → Nat → Bool)

/-- `Pre` for preorder: `le` is transitive and total on DISTINCT elements satisfying `U`, and need not be reflexive.
    (The heap never compares an element with itself, and the event order is not reflexive: `cmp e e = Greater`.) -/
structure Pre (U : Nat → Prop) : Prop where
  trans : ∀ a b c, U a → U b → U c → a ≠ b → b ≠ c → a ≠ c → le a b = true → le b c = true → le a c = true
  total : ∀ a b, U a → U b → a ≠ b → le a b = true ∨ le b a = true

def leq (a b : Nat) : Prop := a = b ∨ le a b = true

def AllIn (U : Nat → Prop) (d : Array Nat) : Prop := ∀ i, i < d.size → U d[i]!

def IsHeap (d : Array Nat) : Prop := ∀ i, 0 < i → i < d.size → leq le d[i]! d[par i]!

/-- a heap with a hole at `pos`, whatever is stored there: the edges that do not touch the hole hold, and the
    children of the hole are `≤` its parent -/
structure Hole (d : Array Nat) (pos : Nat) : Prop where
  pos_lt : pos < d.size
  edge : ∀ i, 0 < i → i < d.size → i ≠ pos → par i ≠ pos → leq le d[i]! d[par i]!
  skip : ∀ c, 0 < c → c < d.size → par c = pos → 0 < pos → leq le d[c]! d[par pos]!

variable {le} {U : Nat → Prop}

theorem leq_trans (hpre : Pre le U) {a b c : Nat} (ha : U a) (hb : U b) (hc : U c)
    (h1 : leq le a b) (h2 : leq le b c) : leq le a c := by
  by_cases hac : a = c
  · exact Or.inl hac
  · rcases h1 with rfl | h1
    · exact h2
    · rcases h2 with rfl | h2
      · exact Or.inr h1
      · by_cases hab : a = b
        · exact Or.inr (hab ▸ h2)
        · by_cases hbc : b = c
          · exact Or.inr (hbc ▸ h1)
          · exact Or.inr (hpre.trans a b c ha hb hc hab hbc hac h1 h2)

theorem leq_of_not_le (hpre : Pre le U) {a b : Nat} (ha : U a) (hb : U b)
    (h : ¬ le a b = true) : leq le b a := by
  by_cases hab : b = a
  · exact Or.inl hab
  · exact Or.inr ((hpre.total a b ha hb (Ne.symm hab)).resolve_left h)

theorem AllIn.iff {d : Array Nat} : AllIn U d ↔ ∀ v ∈ d, U v := by
  refine ⟨fun h v hv => ?_, fun h i hi => h _ (by simp [hi])⟩
  obtain ⟨i, hi, rfl⟩ := Array.mem_iff_getElem.mp hv
  simpa [hi] using h i hi

theorem AllIn.perm {a b : Array Nat} (h : AllIn U b) (p : a.Perm b) : AllIn U a :=
  AllIn.iff.mpr fun v hv => AllIn.iff.mp h v (p.mem_iff.mp hv)

theorem AllIn.set {d : Array Nat} (h : AllIn U d) (i : Nat) {v : Nat} (hv : U v) : AllIn U (d.set! i v) := by
  intro j hj
  rw [Array.size_set!] at hj
  by_cases hij : i = j
  · rw [← hij, get!_set!_self _ (hij ▸ hj)]
    exact hv
  · rw [get!_set!_ne _ hij]
    exact h j hj

/-- of two neighbouring slots the one `sift_down_to_bottom` picks holds the greater element -/
theorem leq_greater (hpre : Pre le U) {d : Array Nat} (hall : AllIn U d) {c : Nat}
    (hc : c + 1 < d.size) :
    leq le d[c]! d[if le d[c]! d[c + 1]! = true then c + 1 else c]! ∧
    leq le d[c + 1]! d[if le d[c]! d[c + 1]! = true then c + 1 else c]! := by
  by_cases hle : le d[c]! d[c + 1]! = true
  · rw [if_pos hle]
    exact ⟨Or.inr hle, Or.inl rfl⟩
  · rw [if_neg hle]
    exact ⟨Or.inl rfl, leq_of_not_le hpre (hall c (Nat.lt_of_succ_lt hc)) (hall _ hc) hle⟩

theorem Hole.fill {d : Array Nat} {pos : Nat} (h : Hole le d pos) (v : Nat)
    (up : 0 < pos → leq le v d[par pos]!) (down : ∀ c, 0 < c → c < d.size → par c = pos → leq le d[c]! v) :
    IsHeap le (d.set! pos v) := by
  intro i hi0 hin
  rw [Array.size_set!] at hin
  by_cases hip : i = pos
  · subst hip
    rw [get!_set!_self _ hin, get!_set!_ne _ (Nat.ne_of_gt (par_lt hi0))]
    exact up hi0
  · rw [get!_set!_ne _ (Ne.symm hip)]
    by_cases hpp : par i = pos
    · rw [hpp, get!_set!_self _ h.pos_lt]
      exact down i hi0 hin hpp
    · rw [get!_set!_ne _ (Ne.symm hpp)]
      exact h.edge i hi0 hin hip hpp

/-- Where the holes come from: a heap `d₀` overwritten at `pos`, and cut or extended beyond what is read.  (`d = d₀`
    inside the loops; `d₀.push x` for `push`; `d₀` without its last slot for `pop`.) -/
theorem IsHeap.hole (hpre : Pre le U) {d₀ : Array Nat} (hall : AllIn U d₀) (h : IsHeap le d₀)
    {d : Array Nat} {pos : Nat} (hp : pos < d.size)
    (agree : ∀ i, i < d.size → i ≠ pos → i < d₀.size ∧ d[i]! = d₀[i]!) : Hole le d pos := by
  refine ⟨hp, fun i hi0 hin hip hpp => ?_, fun c hc0 hcn hcp hp0 => ?_⟩
  · obtain ⟨hi, ei⟩ := agree i hin hip
    rw [ei, (agree _ (Nat.lt_trans (par_lt hi0) hin) hpp).2]
    exact h i hi0 hi
  · -- a child `c` of `pos` is a slot of `d₀`, hence so is `pos`, and `d₀[c] ≤ d₀[pos] ≤ d₀[par pos]`
    have hpc : pos < c := hcp ▸ par_lt hc0
    obtain ⟨hc, ec⟩ := agree c hcn (Nat.ne_of_gt hpc)
    obtain ⟨hpp, ep⟩ := agree _ (Nat.lt_trans (par_lt hp0) hp) (Nat.ne_of_lt (par_lt hp0))
    have hpos := Nat.lt_trans hpc hc
    rw [ec, ep]
    exact leq_trans hpre (hall c hc) (hall pos hpos) (hall _ hpp) (hcp ▸ h c hc0 hc) (h pos hp0 hpos)

/-- moving the hole to `q` (its parent, or its greatest child) by copying `d[q]` into it -/
theorem Hole.move (hpre : Pre le U) {d : Array Nat} (hall : AllIn U d) {pos : Nat}
    (h : Hole le d pos) {q : Nat} (hq : q < d.size)
    (up : 0 < pos → leq le d[q]! d[par pos]!) (down : ∀ c, 0 < c → c < d.size → par c = pos → leq le d[c]! d[q]!) :
    IsHeap le (d.set! pos d[q]!) ∧ AllIn U (d.set! pos d[q]!) ∧ Hole le (d.set! pos d[q]!) q :=
  have hall' := hall.set pos (hall q hq)
  have hh := h.fill _ up down
  ⟨hh, hall', hh.hole hpre hall' ((Array.size_set! ..).symm ▸ hq) fun _ hi _ => ⟨hi, rfl⟩⟩

theorem siftUpLoop_heap (hpre : Pre le U) {elt : Nat} (hU : U elt) {fuel : Nat} {d : Array Nat}
    {pos : Nat} (hf : pos < fuel) (hall : AllIn U d) (h : Hole le d pos)
    (kids : ∀ c, 0 < c → c < d.size → par c = pos → leq le d[c]! elt) :
    IsHeap le (siftUpLoop le elt fuel d pos) := by
  fun_induction siftUpLoop le elt fuel d pos with
  | case1 => exact absurd hf (Nat.not_lt_zero _)
  | case2 fuel d pos h0 parent hle => exact h.fill elt (fun _ => Or.inr hle) kids
  | case3 fuel d pos h0 parent hle ih =>
    -- the parent is `≤ elt`: move it down and continue at the parent
    have hq : parent < pos := par_lt h0
    have hqn : parent < d.size := Nat.lt_trans hq h.pos_lt
    have hqe : leq le d[parent]! elt := leq_of_not_le hpre hU (hall _ hqn) hle
    obtain ⟨hh, hall', hole'⟩ := h.move hpre hall hqn (fun _ => Or.inl rfl) (fun c hc0 hcn hcp => h.skip c hc0 hcn hcp h0)
    refine ih (Nat.lt_of_lt_of_le hq (Nat.le_of_lt_succ hf)) hall' hole' fun c hc0 hcn hcp => ?_
    have := hh c hc0 hcn
    rw [hcp, get!_set!_ne _ (Nat.ne_of_gt hq)] at this
    exact leq_trans hpre (hall' c hcn) (hall _ hqn) hU this hqe
  | case4 fuel d pos h0 => exact h.fill elt (fun hp => absurd hp h0) kids

/-- `hf` is the termination measure: every round moves the hole at least one slot down, so the fuel lasts until the
    hole has passed the middle. -/
theorem siftDownLoop_hole (hpre : Pre le U) (n fuel : Nat) (d : Array Nat) (pos : Nat)
    (hn : d.size = n) (hf : n ≤ fuel + pos) (hall : AllIn U d) (h : Hole le d pos) :
    let r := siftDownLoop le n fuel d pos
    AllIn U r.1 ∧ Hole le r.1 r.2 ∧ n ≤ 2 * r.2 + 1 := by
  fun_induction siftDownLoop le n fuel d pos with
  | case1 d pos => exact absurd (hn ▸ h.pos_lt) (Nat.not_lt_of_le (Nat.zero_add pos ▸ hf))
  | case2 fuel d pos c1 h2 child ih =>
    -- two children: the greater one moves up
    have hk := ite_succ (le d[c1]! d[c1 + 1]! = true) c1
    have hkid := child_iff.mpr hk
    have hcn : child < d.size := hn ▸ two_kids h2 hk
    have hgr := leq_greater hpre hall (c := c1) (hn ▸ two_kids h2 (Or.inr rfl))
    obtain ⟨_, hall', hole'⟩ := h.move hpre hall hcn (h.skip child hkid.1 hcn hkid.2) fun i hi0 _ hip =>
      (child_iff.mp ⟨hi0, hip⟩).elim (· ▸ hgr.1) (· ▸ hgr.2)
    exact ih ((Array.size_set! ..).trans hn)
      (Nat.le_trans hf (Nat.succ_add_eq_add_succ fuel pos ▸ Nat.add_le_add_left (child_gt hk) fuel)) hall' hole'
  | case3 fuel d pos child h2 h1 =>
    -- one child, the last slot
    have hkid := child_iff.mpr (Or.inl rfl : child = 2 * pos + 1 ∨ _)
    have hcn : child < d.size := hn ▸ (one_kid h1).1
    obtain ⟨_, hall', hole'⟩ := h.move hpre hall hcn (h.skip child hkid.1 hcn hkid.2) fun i hi0 hin hip =>
      (child_iff.mp ⟨hi0, hip⟩).elim (· ▸ Or.inl rfl) (fun e => absurd (hn ▸ e ▸ hin) (Nat.not_lt_of_le (one_kid h1).2))
    exact ⟨hall', hole', Nat.le_trans (one_kid h1).2 (Nat.succ_le_succ (Nat.le_mul_of_pos_left child Nat.two_pos))⟩
  | case4 fuel d pos child h2 h1 => exact ⟨hall, h, no_kid h2 h1⟩

theorem siftDownToBottom_heap (hpre : Pre le U) (d : Array Nat) (hall : AllIn U d)
    (h : Hole le d 0) : IsHeap le (siftDownToBottom le d) := by
  obtain ⟨r1, r2, r3⟩ := siftDownLoop_hole hpre d.size d.size d 0 rfl (Nat.le_add_right ..) hall h
  have hs : (siftDownLoop le d.size d.size d 0).1.size = d.size := by
    simpa using (siftDownLoop_perm le d.size d.size d 0 0 rfl h.pos_lt).1.size_eq
  exact siftUpLoop_heap hpre (hall 0 h.pos_lt) (Nat.lt_succ_self _) r1 r2 fun c hc0 hcn hcp =>
    absurd hcp (no_child r3 hc0 (hs ▸ hcn))

theorem root_is_max (hpre : Pre le U) (d : Array Nat) (hall : AllIn U d) (hheap : IsHeap le d) :
    ∀ i, i < d.size → leq le d[i]! d[0]! := by
  intro i
  induction i using Nat.strongRecOn with
  | _ i ih =>
    intro hin
    by_cases hi0 : i = 0
    · subst hi0
      exact Or.inl rfl
    · have hi0' : 0 < i := Nat.pos_of_ne_zero hi0
      have hpn := Nat.lt_trans (par_lt hi0') hin
      exact leq_trans hpre (hall i hin) (hall _ hpn) (hall 0 (Nat.zero_lt_of_lt hin)) (hheap i hi0' hin)
        (ih (par i) (par_lt hi0') hpn)

variable (le)

theorem push_spec (hpre : Pre le U) (d : Array Nat) (x : Nat) (hU : U x) (hall : AllIn U d)
    (hheap : IsHeap le d) :
    IsHeap le (push le d x) ∧ AllIn U (push le d x) ∧ (push le d x).size = d.size + 1 ∧
    ∀ v, (push le d x).count v = d.count v + (if x = v then 1 else 0) := by
  have hall' : AllIn U (d.push x) := AllIn.iff.mpr (forall_mem_push (AllIn.iff.mp hall) hU)
  -- the new last slot is a hole, and has no children
  have hole : Hole le (d.push x) d.size := hheap.hole hpre hall (by simp) fun i hin hne =>
    have hi : i < d.size := Nat.lt_of_le_of_ne (Nat.le_of_lt_succ (Nat.lt_of_lt_of_eq hin (Array.size_push ..))) hne
    ⟨hi, get!_push_lt x hi⟩
  refine ⟨?_, hall'.perm (push_perm le d x), push_count le d x⟩
  exact siftUpLoop_heap hpre (by simpa using hU) (Nat.lt_succ_self _) hall' hole fun c hc0 hcn hcp =>
    absurd hcp (no_child (Nat.succ_le_succ (Nat.le_mul_of_pos_left _ Nat.two_pos)) hc0 (Nat.lt_of_lt_of_eq hcn (Array.size_push ..)))

theorem pop_spec {U : Nat → Prop} (hpre : Pre le U) (d : Array Nat) (hall : AllIn U d) (hheap : IsHeap le d)
    (top : Nat) (d' : Array Nat) (h : pop le d = some (top, d')) :
    (∀ i, i < d.size → leq le d[i]! top) ∧ IsHeap le d' ∧ AllIn U d' ∧ d'.size + 1 = d.size ∧
    ∀ v, d'.count v + (if top = v then 1 else 0) = d.count v := by
  have hall' : AllIn U d' := AllIn.iff.mpr fun v hv =>
    AllIn.iff.mp hall v ((pop_perm h).mem_iff.mp (Array.mem_push.mpr (Or.inl hv)))
  refine ⟨?_, ?_, hall', pop_count le d top d' h⟩
  all_goals obtain ⟨a, l, rfl, rfl, rfl⟩ := pop_some h
  · exact root_is_max hpre _ hall hheap
  · split
    · rename_i h0
      exact fun i _ hin => absurd (h0 ▸ hin) (Nat.not_lt_zero i)
    · -- the array handed to sift_down_to_bottom, the last element at the root, is the heap but for its root
      rename_i h0
      have h0 : 0 < a.size := Nat.pos_of_ne_zero h0
      have hU := AllIn.iff.mp hall
      have halla : AllIn U (a.set! 0 l) :=
        AllIn.set (AllIn.iff.mpr fun v hv => hU v (Array.mem_push_of_mem l hv)) 0 (hU l Array.mem_push_self)
      refine siftDownToBottom_heap hpre _ halla
        (hheap.hole hpre hall ((Array.size_set! ..).symm ▸ h0) fun i hin hne => ?_)
      rw [Array.size_set!] at hin
      exact ⟨(Array.size_push l).symm ▸ Nat.lt_succ_of_lt hin, (get!_set!_ne l (Ne.symm hne)).trans (get!_push_lt l hin).symm⟩

/-- `fuel`: the number of elements -/
def drain : Nat → Array Nat → List Nat
  | 0, _ => []
  | fuel + 1, d =>
    match pop le d with
    | none => []
    | some (top, d') => top :: drain fuel d'

def Descending : List Nat → Prop
  | [] => True
  | x :: xs => (∀ y ∈ xs, leq le y x) ∧ Descending xs

theorem drain_perm (fuel : Nat) (d : Array Nat) (hs : d.size ≤ fuel) : (drain le fuel d).Perm d.toList := by
  fun_induction drain le fuel d with
  | case1 d => rw [Array.eq_empty_of_size_eq_zero (Nat.le_zero.mp hs)]
  | case2 fuel d hp => rw [Array.eq_empty_of_size_eq_zero ((pop_none_iff le d).mp hp)]
  | case3 fuel d top d' hp ih =>
    have hperm := Array.perm_iff_toList_perm.mp (pop_perm hp)
    rw [Array.toList_push] at hperm
    have hs' : d'.size ≤ fuel := Nat.le_of_succ_le_succ (Nat.le_trans (Nat.le_of_eq (pop_count le d top d' hp).1) hs)
    exact ((ih hs').cons top).trans (List.perm_append_singleton top _ |>.symm.trans hperm)

theorem drain_spec (hpre : Pre le U) (fuel : Nat) (d : Array Nat) (hs : d.size ≤ fuel)
    (hall : AllIn U d) (hheap : IsHeap le d) :
    Descending le (drain le fuel d) ∧ (drain le fuel d).length = d.size ∧
      ∀ v, (drain le fuel d).count v = d.count v := by
  have hperm := drain_perm le fuel d hs
  refine ⟨?_, by simpa using hperm.length_eq, fun v => by simpa using hperm.count_eq v⟩
  clear hperm
  fun_induction drain le fuel d with
  | case1 => trivial
  | case2 => trivial
  | case3 fuel d top d' hp ih =>
    obtain ⟨hmax, hheap', hall', hsz, _⟩ := pop_spec le hpre d hall hheap top d' hp
    have hs' : d'.size ≤ fuel := Nat.le_of_succ_le_succ (Nat.le_trans (Nat.le_of_eq hsz) hs)
    refine ⟨fun y hy => ?_, ih hs' hall' hheap'⟩
    -- `y` is in `d'`, hence in `d`, hence `≤ top`
    have hy' := (mem_pop hp).2 y ((drain_perm le fuel d' hs').mem_iff.mp hy)
    exact (AllIn.iff (U := fun v => leq le v top)).mp hmax y (Array.mem_toList_iff.mp hy')

end Gbo.Heap
