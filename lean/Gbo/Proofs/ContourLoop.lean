import Gbo.Model.Connect
import Gbo.Proofs.Except
/-
  `Contour::initialize_from_context` characterised once (the parent link of a new contour and the parent's list
  of holes are written together), and the two loops of `connect_edges`: any invariant of their writes holds at the
  end; the inner loop marks a position that was not processed before in every round, so its fuel is never used up.
-/
namespace Gbo

theorem idxOk_iff {n : Nat} {i : Int} : idxOk n i = true ↔ 0 ≤ i ∧ i.toNat < n := by
  simp [idxOk]

/-- the form in which the model's index checks reach a proof -/
theorem idxOk_of_not {n : Nat} {i : Int} (h : ¬(!idxOk n i) = true) : idxOk n i = true := by simpa using h

theorem idxOk_mono {n m : Nat} {i : Int} (h : idxOk n i = true) (hnm : n ≤ m) : idxOk m i = true :=
  idxOk_iff.mpr ⟨(idxOk_iff.mp h).1, Nat.lt_of_lt_of_le (idxOk_iff.mp h).2 hnm⟩

theorem idxOk_self (n : Nat) : idxOk (n + 1) (n : Int) = true :=
  idxOk_iff.mpr ⟨Int.natCast_nonneg n, Nat.lt_succ_self n⟩

def pushHole (cid : Int) (c : Contour) : Contour := { c with holeIds := c.holeIds.push cid }

/-- the list of contours after `initialize_from_context` has created contour `cid` with parent link `o`: the one
    write of the bookkeeping, `contours[p].hole_ids.push(cid)` -/
def adopt (cs : Array Contour) (cid : Int) : Option Int → Array Contour
  | none => cs
  | some p => cs.modify p.toNat (pushHole cid)

theorem adopt_size {cs : Array Contour} {cid : Int} : ∀ {o}, (adopt cs cid o).size = cs.size
  | none => rfl
  | some _ => Array.size_modify

theorem apply_get!_adopt {β : Type} (g : Contour → β) {cid : Int} (hg : ∀ c, g (pushHole cid c) = g c)
    {cs : Array Contour} {j : Nat} : ∀ {o}, g (adopt cs cid o)[j]! = g cs[j]!
  | none => rfl
  | some p => apply_get!_modify g hg

/-- `ho`: the write goes to position `p.toNat`, which is position 0 for a negative `p`, while `o = some ↑j` compares
    `p` itself -/
theorem adopt_holeIds {cs : Array Contour} {cid : Int} {o : Option Int} {j : Nat} (hj : j < cs.size)
    (ho : ∀ p, o = some p → 0 ≤ p) :
    (adopt cs cid o)[j]!.holeIds.toList = cs[j]!.holeIds.toList ++ if o = some (j : Int) then [cid] else [] := by
  cases o with
  | none => exact (List.append_nil _).symm
  | some p =>
    rw [adopt, get!_modify]
    by_cases hk : p.toNat = j
    · rw [if_pos ⟨hk, hj⟩, if_pos (by rw [← hk, Int.toNat_of_nonneg (ho p rfl)]), pushHole, Array.toList_push]
    · rw [if_neg fun e => hk e.1, if_neg fun e => hk (by rw [Option.some.inj e, Int.toNat_natCast]), List.append_nil]

theorem forall_mem_adopt {P : Contour → Prop} {cs : Array Contour} {cid : Int} (hP : ∀ d, P d → P (pushHole cid d))
    (h : ∀ d ∈ cs, P d) : ∀ {o : Option Int}, ∀ d ∈ adopt cs cid o, P d
  | none => h
  | some _ => forall_mem_modify hP h

/-- `initialize_from_context`: everything it returns except the `depth` of the new contour.  As parent the new
    contour names the contour below it, if that is no hole, or else the parent of the contour below: hence the
    disjunction. -/
theorem initializeFromContext_spec {cfg : Cfg} {a : Arena} {event : Nat} {cs : Array Contour} {cid : Int} :
    ∀ {c cs'}, initializeFromContext cfg a event cs cid = .ok (c, cs') →
    c.points = #[] ∧ c.holeIds = #[] ∧ cs' = adopt cs cid c.holeOf ∧
    ∀ p, c.holeOf = some p → idxOk cs.size p = true ∧
      (cs[p.toNat]!.holeOf = none ∨ ∃ l : Int, idxOk cs.size l = true ∧ cs[l.toNat]!.holeOf = some p) := by
  fun_cases initializeFromContext cfg a event cs cid
  case case4 lower _ hlow _ parent hpar hp _ =>
    rintro _ _ ⟨⟩
    exact ⟨rfl, rfl, rfl, fun _ e => Option.some.inj e ▸ ⟨idxOk_of_not hp, .inr ⟨lower, idxOk_of_not hlow, hpar⟩⟩⟩
  case case5 hlow _ hnone _ =>
    rintro _ _ ⟨⟩
    exact ⟨rfl, rfl, rfl, fun _ e => Option.some.inj e ▸ ⟨idxOk_of_not hlow, .inl hnone⟩⟩
  -- the other branches fail or create a contour that is no hole
  all_goals rintro _ _ ⟨⟩
  all_goals exact ⟨rfl, rfl, rfl, nofun⟩

def unproc (p : Array Bool) : Nat := p.count false

theorem unproc_set (p : Array Bool) (i : Nat) (hi : i < p.size) :
    unproc (p.set! i true) = unproc p - if p[i]! = false then 1 else 0 := by
  unfold unproc
  rw [Array.set!_eq_setIfInBounds, Array.setIfInBounds, dif_pos hi, Array.count_set hi, getElem!_pos p i hi]
  simp

theorem unproc_set_le (p : Array Bool) (i : Nat) : unproc (p.set! i true) ≤ unproc p := by
  by_cases hi : i < p.size
  · rw [unproc_set p i hi]
    exact Nat.sub_le _ _
  · rw [Array.set!_eq_setIfInBounds, Array.setIfInBounds, dif_neg hi]
    exact Nat.le_refl _

theorem unproc_set_lt (p : Array Bool) (i : Nat) (hi : i < p.size) (hp : p[i]! = false) :
    unproc (p.set! i true) < unproc p := by
  rw [unproc_set p i hi, if_pos hp]
  exact Nat.sub_lt (Array.count_pos_iff.mpr (((getElem!_pos p i hi).symm.trans hp) ▸ Array.getElem_mem hi)) Nat.one_pos

/-- a round of the contour loop marks two positions -/
theorem unproc_round (p : Array Bool) (i j : Nat) (hi : i < p.size) (hp : p[i]! = false) :
    unproc ((p.set! i true).set! j true) < unproc p :=
  Nat.lt_of_le_of_lt (unproc_set_le _ _) (unproc_set_lt p i hi hp)

theorem getNextPosLoop_unprocessed {start : Nat} {processed : Array Bool} {map : Array Nat} {fuel pos : Nat} :
    ∀ npos, getNextPosLoop start processed map fuel pos = .ok (some npos) → processed[npos]! = false := by
  fun_induction getNextPosLoop start processed map fuel pos
  case case3 h =>
    rintro _ ⟨⟩
    simpa using h
  case case4 ih => exact ih
  all_goals nofun

theorem getNextPosLoop_error {start : Nat} {processed : Array Bool} {map : Array Nat} {fuel pos : Nat} {e : Fail} :
    getNextPosLoop start processed map fuel pos = .error e → e = .fuel "get_next_pos" := by
  fun_induction getNextPosLoop start processed map fuel pos
  case case1 =>
    rintro ⟨⟩
    rfl
  case case4 ih => exact ih
  all_goals nofun

/-- the loop never runs out of fuel when it is given more fuel than there are unprocessed positions: every round
    marks one that was not processed -/
theorem contourLoop_fuel {res map : Array Nat} {contourId : Int} {initial : Pt} {fuel : Nat} {st : CE} {pos : Nat} :
    st.processed.size = res.size → st.processed[pos]! = false → unproc st.processed < fuel →
      contourLoop res map contourId initial fuel st pos ≠ .error (.fuel "connect_edges contour loop") := by
  -- cases of the loop: 1 no fuel, 2 and 3 an index check fails, 4 `get_next_pos` fails (with its own message),
  -- 5 no next position, 6 back at the initial point, 7 one more round
  fun_induction contourLoop res map contourId initial fuel st pos
  case case1 => exact fun _ _ h => absurd h (Nat.not_lt_zero _)
  case case4 e he =>
    rw [getNextPosLoop_error he]
    exact fun _ _ _ => by simp
  case case7 hpos _ _ _ _ _ _ _ _ st2 _ hn _ ih =>
    intro hsz hp hu
    -- read `st2.processed` as its value: left as a projection of the `let`-bound state, the unifier unfolds `set!`
    dsimp only [st2] at ih
    have hpos := Nat.lt_of_lt_of_eq (Nat.lt_of_not_ge hpos) hsz.symm
    exact ih ((Array.size_set! _ _ _).trans ((Array.size_set! _ _ _).trans hsz)) (getNextPosLoop_unprocessed _ hn)
      (Nat.lt_of_lt_of_le (unproc_round _ _ _ hpos hp) (Nat.le_of_lt_succ hu))
  all_goals exact fun _ _ _ => nofun

/-- The loop writes in two ways: it marks an event (contour id, `processed`) and it appends the point of a result
    event.  `P` takes the state as a constructor application: against the `let`-bound states of the model a
    hypothesis about `{ st with .. }` makes the unifier unfold `Array.modify`. -/
theorem contourLoop_inv {res map : Array Nat} {cid : Int} {initial : Pt} {P : CE → Prop}
    (hmark : ∀ {a pr c ev pos}, P ⟨a, pr, c⟩ →
      P ⟨a.modify ev fun e => { e with outputContourId := cid }, pr.set! pos true, c⟩)
    (hemit : ∀ {a pr c pos}, pos < res.size → P ⟨a, pr, c⟩ →
      P ⟨a, pr, { c with points := c.points.push a[res[pos]!]!.point }⟩)
    {fuel : Nat} {st : CE} {pos : Nat} : P st → ExAll P (contourLoop res map cid initial fuel st pos) := by
  -- one round: mark `pos`, mark the other end of its edge, emit that end's point
  have round {a pr c} {ev1 ev2 p1 : Nat} {p2 : Int} (hp2 : ¬(!idxOk res.size p2) = true) (h : P ⟨a, pr, c⟩) :=
    hemit (a := (a.modify ev1 _).modify ev2 _) (pr := (pr.set! p1 true).set! p2.toNat true)
      (idxOk_iff.mp (idxOk_of_not hp2)).2 (hmark (hmark h))
  -- the loop returns after a round in cases 5 (no next position) and 6 (back at the initial point), goes on in 7
  fun_induction contourLoop res map cid initial fuel st pos
  case case5 hp2 _ _ _ _ _ _ => exact fun h0 => .pure (round hp2 h0)
  case case6 hp2 _ _ _ _ _ _ _ _ => exact fun h0 => .pure (round hp2 h0)
  case case7 hp2 _ _ _ _ _ _ _ _ ih => exact fun h0 => ih (round hp2 h0)
  all_goals exact fun _ => .error

theorem connectEdges_go_inv {cfg : Cfg} {res map : Array Nat} {I : Array Contour → Arena → Prop}
    (hstep : ∀ {i a processed cs c cs1 st}, i < res.size → I cs a →
      initializeFromContext cfg a res[i]! cs cs.size = .ok (c, cs1) →
      contourLoop res map cs.size a[res[i]!]!.point (res.size + 1)
        ⟨a, processed, { c with points := c.points.push a[res[i]!]!.point }⟩ i = .ok st →
      I (cs1.push st.contour) st.arena)
    {fuel i : Nat} {a : Arena} {processed : Array Bool} {contours : Array Contour} :
    I contours a → ExAll (fun r => I r.1 r.2) (connectEdges.go cfg res map fuel i a processed contours) := by
  fun_induction connectEdges.go cfg res map fuel i a processed contours
  case case1 => exact fun h0 => .pure h0
  case case2 => exact fun h0 => .pure h0
  case case3 ih => exact ih
  case case6 hi _ _ _ _ hinit _ _ _ hloop ih => exact fun h0 => ih (hstep (Nat.lt_of_not_ge hi) h0 hinit hloop)
  all_goals exact fun _ => .error

theorem connectEdges_ok {cfg : Cfg} {a : Arena} {sorted : Array Nat} {r : Array Contour × Arena}
    (h : connectEdges cfg a sorted = .ok r) : ∃ res a1, orderEvents a sorted = .ok (res, a1) ∧
      connectEdges.go cfg res (precomputeIterationOrder (res.map fun i => (a1[i]!.point, a1[i]!.left))) (res.size + 1) 0
        a1 (Array.replicate res.size false) #[] = .ok r := by
  rw [connectEdges] at h
  cases ho : orderEvents a sorted with
  | error e =>
    rw [ho] at h
    cases h
  | ok p =>
    rw [ho] at h
    exact ⟨_, _, rfl, h⟩

end Gbo
