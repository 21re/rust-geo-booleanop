import Mathlib.Tactic.Ring
import Mathlib.Tactic.FieldSimp
import Gbo.Proofs.Transform
import Gbo.Proofs.Isect
/-
  The rounded intersection routine commutes with scaling by a factor the arithmetic handles exactly
  (for binary floating point: a power of two, as long as nothing over- or underflows): `intersection_impl` here;
  the bounding box and the clamp commute with every order embedding of the two coordinates.  Props/C08 puts them
  together.
-/
namespace Gbo

def scaleIsect (c : Rat) : Isect → Isect
  | .none => .none
  | .point p => .point (scalePt c p)
  | .overlap p q => .overlap (scalePt c p) (scalePt c q)
  | .nonfinite => .nonfinite

theorem scaleIsect_eq_mapIsect (c : Rat) (i : Isect) : scaleIsect c i = mapIsect (scalePt c) i := by
  cases i <;> rfl

structure ScalesExactly (ar : Arith) (c : Rat) : Prop where
  one : ∀ q, ar.rnd (c * q) = c * ar.rnd q
  two : ∀ q, ar.rnd (c * c * q) = c * c * ar.rnd q

variable {ar : Arith} {c : Rat}

/-- every operation is an exact one followed by `rnd`: it scales when the exact result does, which is a ring identity -/
theorem rnd_scale {k : Rat} (hk : ∀ q, ar.rnd (k * q) = k * ar.rnd q) {x t : Rat} (e : x = k * t) :
    ar.rnd x = k * ar.rnd t := by
  rw [e, hk]

theorem sub_scale (h : ScalesExactly ar c) (a b : Rat) : ar.sub (c * a) (c * b) = c * ar.sub a b :=
  rnd_scale h.one (by ring)

theorem add_scale (h : ScalesExactly ar c) (a b : Rat) : ar.add (c * a) (c * b) = c * ar.add a b :=
  rnd_scale h.one (by ring)

theorem mul_scale2 (h : ScalesExactly ar c) (a b : Rat) : ar.mul (c * a) (c * b) = c * c * ar.mul a b :=
  rnd_scale h.two (by ring)

theorem sub_scale2 (h : ScalesExactly ar c) (a b : Rat) : ar.sub (c * c * a) (c * c * b) = c * c * ar.sub a b :=
  rnd_scale h.two (by ring)

theorem add_scale2 (h : ScalesExactly ar c) (a b : Rat) : ar.add (c * c * a) (c * c * b) = c * c * ar.add a b :=
  rnd_scale h.two (by ring)

theorem cross_scale (h : ScalesExactly ar c) (a b : Pt) :
    ar.cross (scalePt c a) (scalePt c b) = c * c * ar.cross a b := by
  unfold Arith.cross scalePt
  rw [mul_scale2 h, mul_scale2 h, sub_scale2 h]

theorem dot_scale (h : ScalesExactly ar c) (a b : Pt) :
    ar.dot (scalePt c a) (scalePt c b) = c * c * ar.dot a b := by
  unfold Arith.dot scalePt
  rw [mul_scale2 h, mul_scale2 h, add_scale2 h]

theorem div_scale2 (hc : c ≠ 0) (a b : Rat) : ar.div (c * c * a) (c * c * b) = ar.div a b := by
  unfold Arith.div
  congr 1
  by_cases hb : b = 0
  · simp [hb]
  · field_simp

/-- the parameter `s` along a segment is scale invariant; the length it multiplies is not -/
theorem mul_scale1 (h : ScalesExactly ar c) (s a : Rat) : ar.mul s (c * a) = c * ar.mul s a :=
  rnd_scale h.one (by ring)

theorem midPoint_scale (h : ScalesExactly ar c) (p d : Pt) (s : Rat) :
    ar.midPoint (scalePt c p) s (scalePt c d) = scalePt c (ar.midPoint p s d) := by
  unfold Arith.midPoint scalePt
  rw [mul_scale1 h, mul_scale1 h, add_scale h, add_scale h]

theorem vec_scale (h : ScalesExactly ar c) (p q : Pt) :
    ({ x := ar.sub (scalePt c q).x (scalePt c p).x, y := ar.sub (scalePt c q).y (scalePt c p).y } : Pt)
      = scalePt c { x := ar.sub q.x p.x, y := ar.sub q.y p.y } := by
  simp only [scalePt, sub_scale h]

theorem isectImpl_scale (h : ScalesExactly ar c) (hc : 0 < c) (a1 a2 b1 b2 : Pt) :
    ar.isectImpl (scalePt c a1) (scalePt c a2) (scalePt c b1) (scalePt c b2)
      = scaleIsect c (ar.isectImpl a1 a2 b1 b2) := by
  have hc0 : c ≠ 0 := ne_of_gt hc
  unfold Arith.isectImpl
  -- every quantity the routine branches on is scale invariant; `scaleIsect` is pushed to the leaves, where it computes
  simp only [vec_scale h, cross_scale h, dot_scale h, div_scale2 hc0, midPoint_scale h, ne_eq, mul_cc_eq_zero hc0,
    apply_ite (scaleIsect c)]
  rfl

section
variable {f : Pt → Pt} {gx gy : Rat → Rat}

theorem isectBBox_map (hf : ∀ p, f p = { x := gx p.x, y := gy p.y }) (hx : OrdEmb gx) (hy : OrdEmb gy) (a1 a2 b1 b2 : Pt) :
    isectBBox (f a1) (f a2) (f b1) (f b2) = (isectBBox a1 a2 b1 b2).map (mapBB gx gy) := by
  simp only [isectBBox_eq, hf, hx.rmin, hx.rmax, hx.le, hy.rmin, hy.rmax, hy.le, apply_ite (Option.map (mapBB gx gy))]
  rfl

theorem clampPt_map (hf : ∀ p, f p = { x := gx p.x, y := gy p.y }) (hx : OrdEmb gx) (hy : OrdEmb gy) (p : Pt) (bb : BBox) :
    clampPt (f p) (mapBB gx gy bb) = f (clampPt p bb) := by
  simp only [clampPt, mapBB, hf, gt_iff_lt, hx.lt, hy.lt, apply_ite gx, apply_ite gy]

end

theorem scalesExactly_exact (c : Rat) : ScalesExactly Arith.exact c := ⟨fun _ => rfl, fun _ => rfl⟩

end Gbo
