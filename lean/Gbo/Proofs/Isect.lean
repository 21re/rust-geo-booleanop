import Mathlib.Tactic.Linarith
import Mathlib.Tactic.Ring
import Gbo.Model.Event
import Gbo.Proofs.MinMax
/-
  The segment intersection routine.  For EVERY rounding: whatever it reports has been clamped into the boxes of
  both segments.  Under exact arithmetic, for non-parallel segments: it reports the one common point of the two
  segments (`OnSegP`, a point `atA a b t` with `0 ≤ t ≤ 1`) if there is one, found by Cramer's rule.  Last, for the
  statements about `divide_segment`: a point of a segment splits it into two segments whose union it is.
-/
namespace Gbo

def InBox (p : Pt) (b : BBox) : Prop := b.minx ≤ p.x ∧ p.x ≤ b.maxx ∧ b.miny ≤ p.y ∧ p.y ≤ b.maxy

def segBox (a b : Pt) : BBox := { minx := rmin a.x b.x, miny := rmin a.y b.y, maxx := rmax a.x b.x, maxy := rmax a.y b.y }

/-- one coordinate of `clampPt` -/
theorem clamp_mem (x lo hi : Rat) (h : lo ≤ hi) :
    lo ≤ (if x < lo then lo else if x > hi then hi else x) ∧ (if x < lo then lo else if x > hi then hi else x) ≤ hi := by
  by_cases h1 : x < lo
  · rw [if_pos h1]; exact ⟨le_rfl, h⟩
  · rw [if_neg h1]
    by_cases h2 : x > hi
    · rw [if_pos h2]; exact ⟨h, le_rfl⟩
    · rw [if_neg h2]; exact ⟨not_lt.1 h1, not_lt.1 h2⟩

theorem clampPt_inBox (p : Pt) (bb : BBox) (hx : bb.minx ≤ bb.maxx) (hy : bb.miny ≤ bb.maxy) : InBox (clampPt p bb) bb :=
  ⟨(clamp_mem p.x _ _ hx).1, (clamp_mem p.x _ _ hx).2, (clamp_mem p.y _ _ hy).1, (clamp_mem p.y _ _ hy).2⟩

theorem clampPt_eq_of_inBox {p : Pt} {bb : BBox} (h : InBox p bb) : clampPt p bb = p := by
  obtain ⟨h1, h2, h3, h4⟩ := h
  unfold clampPt
  rw [if_neg (not_lt.2 h1), if_neg (not_lt.2 h2), if_neg (not_lt.2 h3), if_neg (not_lt.2 h4)]

/-- the intersection of the boxes of two segments (a box when its bounds are in order) -/
def interBox (a1 a2 b1 b2 : Pt) : BBox :=
  { minx := rmax (rmin a1.x a2.x) (rmin b1.x b2.x), miny := rmax (rmin a1.y a2.y) (rmin b1.y b2.y),
    maxx := rmin (rmax a1.x a2.x) (rmax b1.x b2.x), maxy := rmin (rmax a1.y a2.y) (rmax b1.y b2.y) }

/-- the clamp box is `interBox`, written out, when that is a box -/
theorem isectBBox_eq (a1 a2 b1 b2 : Pt) :
    isectBBox a1 a2 b1 b2 =
      if rmax (rmin a1.x a2.x) (rmin b1.x b2.x) ≤ rmin (rmax a1.x a2.x) (rmax b1.x b2.x) ∧
          rmax (rmin a1.y a2.y) (rmin b1.y b2.y) ≤ rmin (rmax a1.y a2.y) (rmax b1.y b2.y) then
        some { minx := rmax (rmin a1.x a2.x) (rmin b1.x b2.x), miny := rmax (rmin a1.y a2.y) (rmin b1.y b2.y),
               maxx := rmin (rmax a1.x a2.x) (rmax b1.x b2.x), maxy := rmin (rmax a1.y a2.y) (rmax b1.y b2.y) }
      else none := by
  unfold isectBBox
  simp only [sortPair_eq]

theorem inBox_interBox {a1 a2 b1 b2 p : Pt} :
    InBox p (interBox a1 a2 b1 b2) ↔ InBox p (segBox a1 a2) ∧ InBox p (segBox b1 b2) := by
  simp only [InBox, interBox, segBox, rmax_le_iff, le_rmin_iff]
  exact ⟨fun ⟨⟨a1, b1⟩, ⟨a2, b2⟩, ⟨a3, b3⟩, ⟨a4, b4⟩⟩ => ⟨⟨a1, a2, a3, a4⟩, ⟨b1, b2, b3, b4⟩⟩,
    fun ⟨⟨a1, a2, a3, a4⟩, ⟨b1, b2, b3, b4⟩⟩ => ⟨⟨a1, b1⟩, ⟨a2, b2⟩, ⟨a3, b3⟩, ⟨a4, b4⟩⟩⟩

theorem clampPt_in_both {a1 a2 b1 b2 : Pt} {bb : BBox} (hb : isectBBox a1 a2 b1 b2 = some bb) (q : Pt) :
    InBox (clampPt q bb) (segBox a1 a2) ∧ InBox (clampPt q bb) (segBox b1 b2) := by
  rw [isectBBox_eq, Option.ite_none_right_eq_some] at hb
  obtain ⟨hc, hb⟩ := hb
  cases hb
  exact inBox_interBox.1 (clampPt_inBox q (interBox a1 a2 b1 b2) hc.1 hc.2)

theorem isect_in_both_boxes (ar : Arith) (a1 a2 b1 b2 : Pt) :
    match ar.isect a1 a2 b1 b2 with
    | .point p => InBox p (segBox a1 a2) ∧ InBox p (segBox b1 b2)
    | .overlap p q => (InBox p (segBox a1 a2) ∧ InBox p (segBox b1 b2)) ∧ (InBox q (segBox a1 a2) ∧ InBox q (segBox b1 b2))
    | _ => True := by
  unfold Arith.isect
  cases hb : isectBBox a1 a2 b1 b2 with
  | none => trivial
  | some bb =>
    cases ar.isectImpl a1 a2 b1 b2 with
    | none | nonfinite => trivial
    | point p => exact clampPt_in_both hb p
    | overlap p q => exact ⟨clampPt_in_both hb p, clampPt_in_both hb q⟩

theorem isectBBox_of_common {a1 a2 b1 b2 p : Pt} (ha : InBox p (segBox a1 a2)) (hb : InBox p (segBox b1 b2)) :
    ∃ bb, isectBBox a1 a2 b1 b2 = some bb ∧ InBox p bb :=
  have hp := inBox_interBox.2 ⟨ha, hb⟩
  ⟨_, (isectBBox_eq ..).trans (if_pos ⟨hp.1.trans hp.2.1, hp.2.2.1.trans hp.2.2.2⟩), hp⟩

/-- `p` lies on the closed segment `a b` -/
def OnSegP (p a b : Pt) : Prop :=
  ∃ t : Rat, 0 ≤ t ∧ t ≤ 1 ∧ p.x = a.x + t * (b.x - a.x) ∧ p.y = a.y + t * (b.y - a.y)

def krossOf (a1 a2 b1 b2 : Pt) : Rat := (a2.x - a1.x) * (b2.y - b1.y) - (a2.y - a1.y) * (b2.x - b1.x)
def sOf (a1 a2 b1 b2 : Pt) : Rat := ((b1.x - a1.x) * (b2.y - b1.y) - (b1.y - a1.y) * (b2.x - b1.x)) / krossOf a1 a2 b1 b2
def tOf (a1 a2 b1 b2 : Pt) : Rat := ((b1.x - a1.x) * (a2.y - a1.y) - (b1.y - a1.y) * (a2.x - a1.x)) / krossOf a1 a2 b1 b2
def atA (a1 a2 : Pt) (s : Rat) : Pt := { x := a1.x + s * (a2.x - a1.x), y := a1.y + s * (a2.y - a1.y) }

theorem sq_pos_iff_ne (k : Rat) : k * k > 0 ↔ k ≠ 0 := by
  constructor
  · intro h hk; rw [hk] at h; simp at h
  · intro h; exact mul_self_pos.mpr h

theorem isectImpl_exact_nonparallel (a1 a2 b1 b2 : Pt) (hk : krossOf a1 a2 b1 b2 ≠ 0) :
    Arith.exact.isectImpl a1 a2 b1 b2 =
      (let s := sOf a1 a2 b1 b2
       let t := tOf a1 a2 b1 b2
       if s < 0 ∨ s > 1 then .none else
       if t < 0 ∨ t > 1 then .none else
       if s = 0 ∨ s = 1 then .point (atA a1 a2 s) else
       if t = 0 ∨ t = 1 then .point (atA b1 b2 t) else .point (atA a1 a2 s)) := by
  -- with `rnd = id` the branch of the routine for `kross ≠ 0` is this expression as it stands
  unfold Arith.isectImpl
  exact if_pos hk

theorem cramer {p q u v e1 e2 s t : Rat} (hk : p * v - q * u ≠ 0) :
    (s * p - t * u = e1 ∧ s * q - t * v = e2) ↔
      (s = (e1 * v - e2 * u) / (p * v - q * u) ∧ t = (e1 * q - e2 * p) / (p * v - q * u)) := by
  constructor
  · rintro ⟨rfl, rfl⟩
    exact ⟨by rw [eq_div_iff hk]; ring, by rw [eq_div_iff hk]; ring⟩
  · rintro ⟨rfl, rfl⟩
    rw [div_mul_eq_mul_div, div_mul_eq_mul_div, div_mul_eq_mul_div, div_mul_eq_mul_div, div_sub_div_same, div_sub_div_same,
      div_eq_iff hk, div_eq_iff hk]
    exact ⟨by ring, by ring⟩

theorem params_iff {a1 a2 b1 b2 : Pt} (hk : krossOf a1 a2 b1 b2 ≠ 0) (s t : Rat) :
    (a1.x + s * (a2.x - a1.x) = b1.x + t * (b2.x - b1.x) ∧ a1.y + s * (a2.y - a1.y) = b1.y + t * (b2.y - b1.y))
      ↔ (s = sOf a1 a2 b1 b2 ∧ t = tOf a1 a2 b1 b2) := by
  -- each coordinate equation reads `s * (a2 - a1) - t * (b2 - b1) = b1 - a1`
  have move : ∀ a da b db : Rat, a + s * da = b + t * db ↔ s * da - t * db = b - a := fun a da b db => by
    rw [sub_eq_sub_iff_add_eq_add, add_comm a]
  rw [move, move]
  exact cramer hk

theorem atA_eq_atB {a1 a2 b1 b2 : Pt} (hk : krossOf a1 a2 b1 b2 ≠ 0) :
    atA a1 a2 (sOf a1 a2 b1 b2) = atA b1 b2 (tOf a1 a2 b1 b2) :=
  have h := (params_iff hk _ _).2 ⟨rfl, rfl⟩
  Pt.ext h.1 h.2

theorem onSegP_inBox {p a b : Pt} (h : OnSegP p a b) : InBox p (segBox a b) := by
  obtain ⟨t, h0, h1, hx, hy⟩ := h
  unfold InBox segBox
  simp only
  have bx := between_of_param a.x b.x t h0 h1
  have by' := between_of_param a.y b.y t h0 h1
  rw [hx, hy]
  exact ⟨bx.1, bx.2, by'.1, by'.2⟩

theorem atA_onSegP {a b : Pt} {s : Rat} (h0 : 0 ≤ s) (h1 : s ≤ 1) : OnSegP (atA a b s) a b :=
  ⟨s, h0, h1, rfl, rfl⟩

/-- both parameters of the common point of the two lines are in range -/
def InRange (a1 a2 b1 b2 : Pt) : Prop :=
  0 ≤ sOf a1 a2 b1 b2 ∧ sOf a1 a2 b1 b2 ≤ 1 ∧ 0 ≤ tOf a1 a2 b1 b2 ∧ tOf a1 a2 b1 b2 ≤ 1

instance (a1 a2 b1 b2 : Pt) : Decidable (InRange a1 a2 b1 b2) := inferInstanceAs (Decidable (_ ∧ _))

theorem atA_on_both {a1 a2 b1 b2 : Pt} (hk : krossOf a1 a2 b1 b2 ≠ 0) (hin : InRange a1 a2 b1 b2) :
    OnSegP (atA a1 a2 (sOf a1 a2 b1 b2)) a1 a2 ∧ OnSegP (atA a1 a2 (sOf a1 a2 b1 b2)) b1 b2 :=
  ⟨atA_onSegP hin.1 hin.2.1, atA_eq_atB hk ▸ atA_onSegP hin.2.2.1 hin.2.2.2⟩

theorem common_point_iff {a1 a2 b1 b2 : Pt} (hk : krossOf a1 a2 b1 b2 ≠ 0) :
    (∃ p, OnSegP p a1 a2 ∧ OnSegP p b1 b2) ↔ InRange a1 a2 b1 b2 := by
  refine ⟨?_, fun hin => ⟨_, atA_on_both hk hin⟩⟩
  rintro ⟨p, ⟨s, s0, s1, hx, hy⟩, ⟨t, t0, t1, hx', hy'⟩⟩
  obtain ⟨rfl, rfl⟩ := (params_iff hk s t).1 ⟨hx ▸ hx', hy ▸ hy'⟩
  exact ⟨s0, s1, t0, t1⟩

/-- whichever of the two parametrisations a branch of the routine evaluates, it reports the one common point of the
    lines, and only for parameters in range -/
theorem isectImpl_exact_crossing {a1 a2 b1 b2 : Pt} (hk : krossOf a1 a2 b1 b2 ≠ 0) :
    Arith.exact.isectImpl a1 a2 b1 b2 =
      if InRange a1 a2 b1 b2 then .point (atA a1 a2 (sOf a1 a2 b1 b2)) else .none := by
  -- in range means that neither of the two range tests fails
  have hr : InRange a1 a2 b1 b2 ↔
      ¬ (sOf a1 a2 b1 b2 < 0 ∨ sOf a1 a2 b1 b2 > 1) ∧ ¬ (tOf a1 a2 b1 b2 < 0 ∨ tOf a1 a2 b1 b2 > 1) := by
    simp only [InRange, not_or, not_lt, and_assoc]
  rw [isectImpl_exact_nonparallel a1 a2 b1 b2 hk, if_congr hr rfl rfl, ite_and, ite_not, ite_not]
  simp only [← atA_eq_atB hk, ite_self]

theorem isect_exact_nonparallel {a1 a2 b1 b2 : Pt} (hk : krossOf a1 a2 b1 b2 ≠ 0) :
    Arith.exact.isect a1 a2 b1 b2 = if InRange a1 a2 b1 b2 then .point (atA a1 a2 (sOf a1 a2 b1 b2)) else .none := by
  unfold Arith.isect
  rw [isectImpl_exact_crossing hk]
  by_cases hin : InRange a1 a2 b1 b2
  · -- the common point lies in both boxes, so the clamp box exists and clamping does not move the point
    obtain ⟨hA, hB⟩ := atA_on_both hk hin
    obtain ⟨bb, hbb, hbox⟩ := isectBBox_of_common (onSegP_inBox hA) (onSegP_inBox hB)
    rw [hbb, if_pos hin]
    exact congrArg Isect.point (clampPt_eq_of_inBox hbox)
  · rw [if_neg hin]
    cases isectBBox a1 a2 b1 b2 <;> rfl

theorem onSegP_iff {p a b : Pt} : OnSegP p a b ↔ ∃ t : Rat, 0 ≤ t ∧ t ≤ 1 ∧ p = atA a b t :=
  exists_congr fun _ => and_congr_right fun _ => and_congr_right fun _ =>
    ⟨fun h => Pt.ext h.1 h.2, fun h => h ▸ ⟨rfl, rfl⟩⟩

theorem atA_atA_left (a b : Pt) (s t : Rat) : atA a (atA a b s) t = atA a b (t * s) := by
  unfold atA
  simp only [add_sub_cancel_left, mul_assoc]

theorem atA_atA_right (a b : Pt) (s t : Rat) : atA (atA a b s) b t = atA a b (s + t * (1 - s)) := by
  unfold atA
  exact Pt.ext (by simp only; ring) (by simp only; ring)

theorem OnSegP_split (m a b x : Pt) (hm : OnSegP m a b) :
    OnSegP x a b ↔ (OnSegP x a m ∨ OnSegP x m b) := by
  obtain ⟨s, hs0, hs1, rfl⟩ := onSegP_iff.1 hm
  rw [onSegP_iff, onSegP_iff, onSegP_iff]
  constructor
  · -- the parameter `u` of `x` is rescaled to the half it falls in; the two laws above undo the rescaling
    rintro ⟨u, hu0, hu1, rfl⟩
    by_cases hus : u ≤ s
    · refine Or.inl ⟨u / s, div_nonneg hu0 hs0, div_le_one_of_le₀ hus hs0, ?_⟩
      -- for `s = 0` the quotient `u / s` is `0`, which is right as then `u = 0`
      rw [atA_atA_left, div_mul_cancel_of_imp fun hs => le_antisymm (hs ▸ hus) hu0]
    · have hlt : s < u := lt_of_not_ge hus
      have h1s : 0 < 1 - s := sub_pos.2 (lt_of_lt_of_le hlt hu1)
      refine Or.inr ⟨(u - s) / (1 - s), div_nonneg (sub_nonneg.2 hlt.le) h1s.le,
        div_le_one_of_le₀ (sub_le_sub_right hu1 s) h1s.le, ?_⟩
      rw [atA_atA_right, div_mul_cancel₀ _ h1s.ne', add_sub_cancel]
  · rintro (⟨t, ht0, ht1, rfl⟩ | ⟨t, ht0, ht1, rfl⟩)
    · exact ⟨t * s, mul_nonneg ht0 hs0, mul_le_one₀ ht1 hs0 hs1, atA_atA_left a b s t⟩
    · have h1s : 0 ≤ 1 - s := sub_nonneg.2 hs1
      exact ⟨s + t * (1 - s), add_nonneg hs0 (mul_nonneg ht0 h1s), le_sub_iff_add_le'.1 (mul_le_of_le_one_left h1s ht1),
        atA_atA_right a b s t⟩

end Gbo
