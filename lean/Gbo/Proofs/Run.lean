import Gbo.Model.Connect
import Gbo.Proofs.Except
/-
  The body of `boolean_operation` restated once with its parts named (the value of the shortcut, the sweep path as a
  sequence of three stages, the assembly of the polygons from the contours), and a run that returned through the
  sweep read backwards.  Proofs about the whole run start from these instead of unfolding the definition.
-/
namespace Gbo

/-- the assembly step of `boolean_operation` as a function of the contours -/
def assemblePolys (contours : Array Contour) : Except Fail (List Poly) :=
  contours.toList.filter (fun c => c.holeOf.isNone) |>.mapM (fun c =>
    match c.holeIds.toList.mapM (fun (h : Int) =>
        if idxOk contours.size h then some (closeRing contours[h.toNat]!.points.toList) else none) with
    | none => .error (.panic .indexContour)
    | some holes => .ok { ext := closeRing c.points.toList, holes := holes })

/-- what the bounding-box shortcut returns -/
def trivialOut (subject clipping : MPoly) (op : Op) : RunOut :=
  { result := trivialResult subject clipping op, popped := 0, bumps := 0, trivial := true, lineLeft := 0 }

def sweepRun (ar : Arith) (cfg : Cfg) (fq : FQ) (sb cb : BBox) (op : Op) : Except Fail RunOut :=
  subdivide ar cfg fq sb cb op >>= fun sw =>
  connectEdges cfg sw.arena sw.sorted >>= fun r =>
  assemblePolys r.1 >>= fun ps =>
  pure { result := ps, popped := sw.popped, bumps := sw.bumps, trivial := false, lineLeft := sw.lineLeft }

theorem booleanOperation_eq (ar : Arith) (cfg : Cfg) (subject clipping : MPoly) (op : Op) :
    booleanOperation ar cfg subject clipping op =
      if boxesDisjoint (fillQueue subject clipping op).sbbox (fillQueue subject clipping op).cbbox then
        .ok (trivialOut subject clipping op)
      else match (fillQueue subject clipping op).sbbox, (fillQueue subject clipping op).cbbox with
        | some sb, some cb => sweepRun ar cfg (fillQueue subject clipping op).fq sb cb op
        | _, _ => .ok (trivialOut subject clipping op) := by
  unfold booleanOperation sweepRun
  dsimp only
  -- the same conditional and the same match on the boxes on both sides: only the sweep alternative is written differently
  refine ite_congr rfl (fun _ => rfl) fun _ => ?_
  congr 1
  funext sb cb
  cases subdivide ar cfg (fillQueue subject clipping op).fq sb cb op with
  | error e => rfl
  | ok sw =>
    dsimp only [bind, Except.bind]
    cases connectEdges cfg sw.arena sw.sorted with
    | error e => rfl
    | ok r =>
      dsimp only
      -- the model writes the assembly out; the equation `split` gives is about `assemblePolys r.1`
      split
      · rename_i e he
        have he' : assemblePolys r.1 = .error e := he
        rw [he']
      · rename_i ps he
        have he' : assemblePolys r.1 = .ok ps := he
        rw [he']
        rfl

theorem booleanOperation_sweep {ar : Arith} {cfg : Cfg} {subject clipping : MPoly} {op : Op} {out : RunOut}
    (h : booleanOperation ar cfg subject clipping op = .ok out) (hnt : out.trivial = false) :
    ∃ sb cb sw cs a', (fillQueue subject clipping op).sbbox = some sb ∧ (fillQueue subject clipping op).cbbox = some cb ∧
      boxesDisjoint (some sb) (some cb) = false ∧
      subdivide ar cfg (fillQueue subject clipping op).fq sb cb op = .ok sw ∧
      connectEdges cfg sw.arena sw.sorted = .ok (cs, a') ∧ assemblePolys cs = .ok out.result ∧
      out.popped = sw.popped ∧ out.bumps = sw.bumps ∧ out.lineLeft = sw.lineLeft := by
  have ht : (.ok (trivialOut subject clipping op) : Except Fail RunOut) ≠ .ok out := fun e => by
    rw [← Except.ok.inj e] at hnt
    cases hnt
  rw [booleanOperation_eq] at h
  obtain ⟨hd, h⟩ := of_ite_ne h ht
  split at h
  · rename_i sb cb hs hc
    obtain ⟨sw, h1, h⟩ := bind_ok h
    obtain ⟨⟨cs, a'⟩, h2, h⟩ := bind_ok h
    obtain ⟨ps, h3, h⟩ := bind_ok h
    obtain rfl := pure_ok h
    rw [hs, hc, Bool.not_eq_true] at hd
    exact ⟨sb, cb, sw, cs, a', hs, hc, hd, h1, h2, h3, rfl, rfl, rfl⟩
  · exact absurd h ht

end Gbo
