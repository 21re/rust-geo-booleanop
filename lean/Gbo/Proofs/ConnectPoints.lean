import Gbo.Proofs.Bubble
import Gbo.Proofs.ContourLoop
/-
  `connect_edges` writes `other_pos` and contour ids into the arena and never a point, so what it emits are points
  of the events it was handed.
-/
namespace Gbo

def SamePts (a0 a : Arena) : Prop := a.size = a0.size ∧ ∀ j : Nat, a[j]!.point = a0[j]!.point

theorem SamePts.refl (a : Arena) : SamePts a a := ⟨rfl, fun _ => rfl⟩

theorem SamePts.modify {a0 a : Arena} {i : Nat} {f : Ev → Ev} (h : SamePts a0 a) (hf : ∀ e, (f e).point = e.point) :
    SamePts a0 (a.modify i f) :=
  ⟨Array.size_modify.trans h.1, fun j => (apply_get!_modify Ev.point hf).trans (h.2 j)⟩

theorem orderEvents_spec (a a' : Arena) (sorted res : Array Nat) (h : orderEvents a sorted = .ok (res, a')) :
    SamePts a a' ∧ ∀ x, x ∈ res.toList → x ∈ sorted.toList := by
  unfold orderEvents at h
  dsimp only at h
  split at h
  · cases h
  · rename_i r' hb
    obtain ⟨rfl, rfl⟩ := Prod.mk.inj (Except.ok.inj h)
    refine ⟨?_, fun x hx => ?_⟩
    · -- both passes over the result events write `other_pos` only
      rw [← Array.foldl_toList]
      refine foldl_inv (J := SamePts a) (fun b i _ hb' => ?_)
        (foldl_inv (J := SamePts a) (fun b pos _ hb' => hb'.modify fun _ => rfl) (.refl a))
      split
      · split
        · -- the functions as holes: the inner `modify` shows in the goal only once the outer one is matched
          refine .modify (.modify hb' ?_) ?_
          · exact fun _ => rfl
          · exact fun _ => rfl
        · exact hb'
      · exact hb'
    · have hx' := (bubbleSort_perm hb).mem_iff.mp hx
      rw [Array.toList_filter] at hx'
      exact (List.mem_filter.mp hx').1

def EvPoint (a0 : Arena) (sorted : Array Nat) (p : Pt) : Prop := ∃ x, x ∈ sorted.toList ∧ a0[x]!.point = p

def ContourOk (a0 : Arena) (sorted : Array Nat) (c : Contour) : Prop := ∀ p, p ∈ c.points.toList → EvPoint a0 sorted p

theorem ContourOk.push {a0 : Arena} {sorted : Array Nat} {c : Contour} {p : Pt} (hc : ContourOk a0 sorted c)
    (hp : EvPoint a0 sorted p) : ContourOk a0 sorted { c with points := c.points.push p } := by
  intro q hq
  simp only [Array.toList_push, List.mem_append, List.mem_singleton] at hq
  rcases hq with hq | rfl
  · exact hc q hq
  · exact hp

theorem connectEdges_points (cfg : Cfg) (a : Arena) (sorted : Array Nat) (cs : Array Contour) (a' : Arena)
    (h : connectEdges cfg a sorted = .ok (cs, a')) : ∀ d, d ∈ cs.toList → ContourOk a sorted d := by
  obtain ⟨res, a1, hord, hgo⟩ := connectEdges_ok h
  obtain ⟨hs, hres⟩ := orderEvents_spec a a1 sorted res hord
  -- the point of the result event at position `k`, read in any arena that has the points of `a`
  have hev : ∀ (b : Arena) k, SamePts a b → k < res.size → EvPoint a sorted b[res[k]!]!.point :=
    fun b k hb hk => ⟨res[k]!, hres _ (get!_mem hk), (hb.2 _).symm⟩
  refine fun d hd => (connectEdges_go_inv (I := fun cs b => SamePts a b ∧ ∀ d ∈ cs, ContourOk a sorted d) ?_
    ⟨hs, fun d hd => absurd hd (Array.not_mem_empty d)⟩ _ hgo).2 d ⟨hd⟩
  intro i b processed cs c cs1 st hi ⟨hb, hcs⟩ hinit hloop
  obtain ⟨hpts, -, rfl, -⟩ := initializeFromContext_spec hinit
  have hc : ContourOk a sorted c := by
    intro q hq
    simp [hpts] at hq
  obtain ⟨hb', hc'⟩ := contourLoop_inv (P := fun s => SamePts a s.arena ∧ ContourOk a sorted s.contour)
    (fun h => ⟨h.1.modify (f := fun e => { e with outputContourId := _ }) fun _ => rfl, h.2⟩) (fun hk h => ⟨h.1, h.2.push (hev _ _ h.1 hk)⟩)
    ⟨hb, hc.push (hev b i hb hi)⟩ _ hloop
  -- `initialize_from_context` changes the hole list of one contour at most (`pushHole` keeps `points`)
  exact ⟨hb', forall_mem_push (forall_mem_adopt (fun _ h => h) hcs) hc'⟩

end Gbo
