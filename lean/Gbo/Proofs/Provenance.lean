import Gbo.Proofs.Links
/-
  Where event points come from.  `divide_segment` and `possible_intersection` never change the point of an existing
  event, and every point they add is the point they were given (bumped by `nextafter` in x in corner case 1); `Ext`
  packs the two facts for one step.  Hence, for the whole sweep: every event point in the arena `subdivide` returns is
  generated (`Gen`) from the points of the queue's arena, which are vertices of the operands' rings, by intersection
  points the routine computed for two segments between generated points and by that bump.  For every arithmetic.
-/
namespace Gbo

theorem PointsIn.divideArena {a : Arena} {Q : Pt → Prop} {p : Pt} (h : PointsIn a Q) (seL seR : Nat) (hp : Q p) :
    PointsIn (divideArena a seL seR p) Q := by
  have hpush : PointsIn (dividePush a seL seR p) Q := h.push2 hp hp
  intro i hi
  rw [divideArena_point]
  exact hpush i (by rwa [divideArena_size, ← dividePush_size a seL seR p] at hi)

theorem divideArena_keeps (a : Arena) (seL seR : Nat) (p : Pt) : Keeps a (divideArena a seL seR p) :=
  ⟨Nat.le_trans (Nat.le_add_right _ 2) (Nat.le_of_eq (divideArena_size a seL seR p).symm),
    fun i hi => by rw [divideArena_point, dividePush_old hi]⟩

theorem keeps_stable (ar : Arith) (a0 : Arena) : SweepStable ar (Keeps a0) :=
  .of_skel ar (fun hk h => hk.trans h.keeps) fun _ hk => hk.trans (divideArena_keeps ..)

section
variable {ar : Arith} {cfg : Cfg} {Q : Pt → Prop}

theorem divideSegment_keeps {st st' : SwSt} {seL : Nat} {inter : Pt} (h : divideSegment ar cfg st seL inter = .ok st') :
    Keeps st.arena st'.arena :=
  divideSegment_arena (P := Keeps st.arena) h (fun _ _ => divideArena_keeps ..) (.refl _)

theorem divideSegment_pointsIn {st st' : SwSt} {seL : Nat} {inter : Pt} (h : divideSegment ar cfg st seL inter = .ok st')
    (hQ : PointsIn st.arena Q) (hq : Q (bumped ar st.arena seL inter)) : PointsIn st'.arena Q :=
  divideSegment_arena (P := (PointsIn · Q)) h (fun _ _ => hQ.divideArena _ _ hq) hQ

theorem bumped_closed {a : Arena} {seL : Nat} {q : Pt} (hb : ∀ q, Q q → Q { q with x := ar.nextUp q.x }) (hq : Q q) :
    Q (bumped ar a seL q) := by
  unfold bumped
  split
  · exact hb q hq
  · exact hq

theorem possibleIntersection_keeps {st st' : SwSt} {se1 se2 r : Nat}
    (h : possibleIntersection ar cfg st se1 se2 = .ok (r, st')) : Keeps st.arena st'.arena :=
  (keeps_stable ar st.arena).pi cfg st st' se1 se2 r h (.refl _)

theorem possibleIntersection_pointsIn {st st' : SwSt} {se1 se2 r : Nat}
    (h : possibleIntersection ar cfg st se1 se2 = .ok (r, st')) (hb : ∀ q, Q q → Q { q with x := ar.nextUp q.x })
    (ho1 : ∀ o, st.arena[se1]!.other = some o → o < st.arena.size)
    (ho2 : ∀ o, st.arena[se2]!.other = some o → o < st.arena.size)
    (hi : ∀ o1 o2 p, st.arena[se1]!.other = some o1 → st.arena[se2]!.other = some o2 →
      ar.isect st.arena[se1]!.point st.arena[o1]!.point st.arena[se2]!.point st.arena[o2]!.point = .point p → Q p)
    (hQ : PointsIn st.arena Q) : PointsIn st'.arena Q := by
  refine possibleIntersection_arena (P := (PointsIn · Q)) h
    (fun p hp hd hs => divideSegment_pointsIn hd hs (bumped_closed hb ?_)) (hQ.of_skel (markCoincident_skel ..)) hQ
  -- a division point is the computed intersection point or, in the overlap branch, the point of an existing event
  obtain ⟨o1, o2, e1, e2, hp | ⟨k, rfl⟩⟩ := hp
  · exact hi o1 o2 p e1 e2 hp
  · exact hQ _ (overlapEvents_fst_lt (other_some_lt e1) (other_some_lt e2) (ho1 o1 e1) (ho2 o2 e2) k)

end

structure Ext (Q : Pt → Prop) (st st1 : SwSt) : Prop where
  pts : PointsIn st1.arena Q
  size : st.arena.size ≤ st1.arena.size
  old : ∀ i, i < st.arena.size → st1.arena[i]!.point = st.arena[i]!.point

theorem Ext.iff {Q : Pt → Prop} {st st1 : SwSt} : Ext Q st st1 ↔ PointsIn st1.arena Q ∧ Keeps st.arena st1.arena :=
  ⟨fun e => ⟨e.pts, e.size, e.old⟩, fun h => ⟨h.1, h.2.1, h.2.2⟩⟩

theorem Ext.optStep {Q : Pt → Prop} {ar : Arith} {cfg : Cfg} {st st1 st2 : SwSt} {idx : Nat} {p : Pt} {c : Prop} [Decidable c]
    (e : Ext Q st st1) (hb : ∀ q, Q q → Q { q with x := ar.nextUp q.x }) (hp : Q p)
    (h : (if c then divideSegment ar cfg st1 idx p else pure st1) = .ok st2) : Ext Q st st2 :=
  optDivide_inv (I := Ext Q st) (fun e _ hd =>
    Ext.iff.mpr ⟨divideSegment_pointsIn hd e.pts (bumped_closed hb hp), (Ext.iff.mp e).2.trans (divideSegment_keeps hd)⟩) e st2 h

theorem pointsIn_modify_edgeType (a : Arena) (i : Nat) (t : EdgeType) (Q : Pt → Prop) (h : PointsIn a Q) :
    PointsIn (a.modify i (fun ev => { ev with edgeType := t })) Q :=
  h.of_skel (.modify fun _ => rfl)

theorem possibleIntersection_points {ar : Arith} {cfg : Cfg} {st st' : SwSt} {se1 se2 o1 o2 r : Nat} {Q : Pt → Prop}
    (h : possibleIntersection ar cfg st se1 se2 = .ok (r, st')) (h1 : st.arena[se1]!.other = some o1) (h2 : st.arena[se2]!.other = some o2)
    (ho1 : o1 < st.arena.size) (ho2 : o2 < st.arena.size)
    (hQ : PointsIn st.arena Q) (hb : ∀ q, Q q → Q { q with x := ar.nextUp q.x })
    (hi : ∀ p, ar.isect st.arena[se1]!.point st.arena[o1]!.point st.arena[se2]!.point st.arena[o2]!.point = .point p → Q p) :
    Ext Q st st' := by
  refine Ext.iff.mpr ⟨possibleIntersection_pointsIn h hb (fun _ e => Option.some.inj (h1.symm.trans e) ▸ ho1)
    (fun _ e => Option.some.inj (h2.symm.trans e) ▸ ho2) (fun o1' o2' p e1 e2 => ?_) hQ, possibleIntersection_keeps h⟩
  obtain rfl := Option.some.inj (h1.symm.trans e1)
  obtain rfl := Option.some.inj (h2.symm.trans e2)
  exact hi p

/-- points generated from the vertices `V` by the arithmetic `ar` -/
inductive Gen (ar : Arith) (V : Pt → Prop) : Pt → Prop
  | vertex (p : Pt) : V p → Gen ar V p
  | isect (a1 a2 b1 b2 p : Pt) : Gen ar V a1 → Gen ar V a2 → Gen ar V b1 → Gen ar V b2 →
      ar.isect a1 a2 b1 b2 = .point p → Gen ar V p
  | bump (p : Pt) : Gen ar V p → Gen ar V { p with x := ar.nextUp p.x }

/-- joint invariant: the linking gives the bounds of the partners whose points enter `Gen.isect` -/
def ProvInv (ar : Arith) (V : Pt → Prop) (a : Arena) : Prop := MutualLinks a ∧ PointsIn a (Gen ar V)

theorem provInv_stable (ar : Arith) (V : Pt → Prop) : SweepStable ar (ProvInv ar V) where
  fields _ _ _ _ h := ⟨h.1.of_skel (computeFields_skel ..), h.2.of_skel (computeFields_skel ..)⟩
  pi cfg st st' se1 se2 r h hP := by
    have hsz : ∀ {i o : Nat}, st.arena[i]!.other = some o → i < st.arena.size ∧ o < st.arena.size := fun e =>
      ⟨other_some_lt e, (hP.1 _ (other_some_lt e) _ e).1⟩
    exact ⟨(mutualLinks_stable ar).pi cfg st st' se1 se2 r h hP.1,
      possibleIntersection_pointsIn h (fun q hq => Gen.bump q hq) (fun _ e => (hsz e).2) (fun _ e => (hsz e).2)
        (fun o1 o2 p e1 e2 hi =>
          Gen.isect _ _ _ _ p (hP.2 _ (hsz e1).1) (hP.2 _ (hsz e1).2) (hP.2 _ (hsz e2).1) (hP.2 _ (hsz e2).2) hi) hP.2⟩

/-- `hl` holds of the arena `fill_queue` builds: `fillQueue_links` -/
theorem subdivide_provenance (ar : Arith) (cfg : Cfg) (fq : FQ) (sb cb : BBox) (op : Op) (sw : SweepOut)
    (h : subdivide ar cfg fq sb cb op = .ok sw) (hl : MutualLinks fq.arena) :
    PointsIn sw.arena (Gen ar (fun p => ∃ i, i < fq.arena.size ∧ fq.arena[i]!.point = p)) := by
  have h0 : ProvInv ar (fun p => ∃ i, i < fq.arena.size ∧ fq.arena[i]!.point = p) fq.arena :=
    ⟨hl, fun i hi => Gen.vertex _ ⟨i, hi, rfl⟩⟩
  exact (subdivide_preserves ar (provInv_stable ar _) cfg fq sb cb op sw h h0).2

theorem processLine_pts {subj : Bool} {cid : Nat} {ext : Bool} {st : FQ × Option BBox} {s e : Pt} {Q : Pt → Prop}
    (h : PointsIn st.1.arena Q) (hs : Q s) (he : Q e) : PointsIn (processLine subj cid ext st s e).1.arena Q := by
  rw [processLine_eq]
  split
  · exact h
  · exact h.push2 hs he

theorem fillQueue_vertices (a b : MPoly) (op : Op) : PointsIn (fillQueue a b op).fq.arena (VertexOf (a ++ b)) :=
  fillQueue_inv (I := fun fq => PointsIn fq.arena (VertexOf (a ++ b))) a b op
    (fun _ _ _ _ _ _ hs he h => processLine_pts h hs he) fun _ hi => absurd hi (Nat.not_lt_zero _)

theorem Gen.mono {ar : Arith} {V V' : Pt → Prop} (h : ∀ p, V p → V' p) : ∀ p, Gen ar V p → Gen ar V' p := by
  intro p hp
  induction hp with
  | vertex q hq => exact Gen.vertex q (h q hq)
  | isect a1 a2 b1 b2 q _ _ _ _ hi i1 i2 i3 i4 => exact Gen.isect a1 a2 b1 b2 q i1 i2 i3 i4 hi
  | bump q _ ih => exact Gen.bump q ih

end Gbo
