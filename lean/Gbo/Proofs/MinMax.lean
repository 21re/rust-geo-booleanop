import Mathlib.Tactic.Linarith
import Mathlib.Tactic.Ring
import Gbo.Model.Num
/-
  `rmin` / `rmax` are `min` / `max` (by `rfl`); their order facts are given names of their own here, so that no
  proof elsewhere leans on the `rfl`.  Then the two facts about a parameter on the way from one number to another
  that every "point on a segment" argument comes down to.
-/
namespace Gbo

theorem Pt.ext : ∀ {p q : Pt}, p.x = q.x → p.y = q.y → p = q
  | ⟨_, _⟩, ⟨_, _⟩, rfl, rfl => rfl

theorem rmin_le_left (a b : Rat) : rmin a b ≤ a := min_le_left a b
theorem rmin_le_right (a b : Rat) : rmin a b ≤ b := min_le_right a b
theorem le_rmax_left (a b : Rat) : a ≤ rmax a b := le_max_left a b
theorem le_rmax_right (a b : Rat) : b ≤ rmax a b := le_max_right a b
theorem le_rmin_iff {a b c : Rat} : c ≤ rmin a b ↔ c ≤ a ∧ c ≤ b := le_min_iff
theorem rmax_le_iff {a b c : Rat} : rmax a b ≤ c ↔ a ≤ c ∧ b ≤ c := max_le_iff
theorem rmin_le_iff {a b c : Rat} : rmin a b ≤ c ↔ a ≤ c ∨ b ≤ c := min_le_iff
theorem lt_rmax_iff {a b c : Rat} : c < rmax a b ↔ c < a ∨ c < b := lt_max_iff
theorem rmax_lt_iff {a b c : Rat} : rmax a b < c ↔ a < c ∧ b < c := max_lt_iff

theorem rmin_of_le {a b : Rat} (h : a ≤ b) : rmin a b = a := if_pos h
theorem rmax_of_le {a b : Rat} (h : a ≤ b) : rmax a b = b := if_pos h
theorem rmin_of_gt {a b : Rat} (h : b < a) : rmin a b = b := if_neg (not_le.2 h)
theorem rmax_of_gt {a b : Rat} (h : b < a) : rmax a b = a := if_neg (not_le.2 h)

/-- how the source sorts the two ends of an interval -/
theorem sortPair_eq (a b : Rat) : (if a < b then (a, b) else (b, a)) = (rmin a b, rmax a b) := by
  rcases lt_trichotomy a b with h | rfl | h
  · rw [if_pos h, rmin_of_le h.le, rmax_of_le h.le]
  · rw [if_neg (lt_irrefl a), rmin_of_le le_rfl, rmax_of_le le_rfl]
  · rw [if_neg h.not_gt, rmin_of_gt h, rmax_of_gt h]

theorem between_of_param (a b t : Rat) (h0 : 0 ≤ t) (h1 : t ≤ 1) :
    rmin a b ≤ a + t * (b - a) ∧ a + t * (b - a) ≤ rmax a b := by
  -- a weighted mean of `a` and `b` lies between the same mean of two lower and of two upper bounds
  have h1' : 0 ≤ 1 - t := sub_nonneg.2 h1
  have mean : ∀ c : Rat, (1 - t) * c + t * c = c := fun c => by ring
  rw [show a + t * (b - a) = (1 - t) * a + t * b by ring]
  exact ⟨(mean _).ge.trans (add_le_add (mul_le_mul_of_nonneg_left (rmin_le_left a b) h1')
      (mul_le_mul_of_nonneg_left (rmin_le_right a b) h0)),
    (add_le_add (mul_le_mul_of_nonneg_left (le_rmax_left a b) h1') (mul_le_mul_of_nonneg_left (le_rmax_right a b) h0)).trans
      (mean _).le⟩

theorem param_mem {a b x : Rat} (h : a ≠ b) (h0 : rmin a b ≤ x) (h1 : x ≤ rmax a b) :
    0 ≤ (x - a) / (b - a) ∧ (x - a) / (b - a) ≤ 1 := by
  have frac : ∀ {u w : Rat}, 0 < w → 0 ≤ u → u ≤ w → 0 ≤ u / w ∧ u / w ≤ 1 := fun hw h0 h1 =>
    ⟨div_nonneg h0 hw.le, (div_le_one₀ hw).2 h1⟩
  rcases lt_or_gt_of_ne h with hlt | hgt
  · exact frac (sub_pos.2 hlt) (sub_nonneg.2 ((rmin_of_le hlt.le).ge.trans h0))
      (sub_le_sub_right (h1.trans (rmax_of_le hlt.le).le) a)
  · -- the same quotient with numerator and denominator negated
    rw [← neg_div_neg_eq, neg_sub, neg_sub]
    exact frac (sub_pos.2 hgt) (sub_nonneg.2 (h1.trans (rmax_of_gt hgt).le))
      (sub_le_sub_left ((rmin_of_gt hgt).ge.trans h0) a)

end Gbo
