/-
  General facts, none of which mentions the model: an `if` read backwards; `a[i]!` and membership after the array
  writes the model uses (`map`, `modify`, `push`, `set!`, swaps); an invariant or a commuting map carried through
  `List.foldl`, `List.mapM`, `List.flatMap`.
-/
namespace Gbo

/-- much cheaper than `split at h` on a large `h` -/
theorem of_ite_eq {α : Type} {c : Prop} [Decidable c] {x y z : α} (h : (if c then x else y) = z) :
    c ∧ x = z ∨ ¬c ∧ y = z := by
  split at h
  · exact .inl ⟨‹c›, h⟩
  · exact .inr ⟨‹¬c›, h⟩

/-- for a guard that throws, when the whole returns: `of_ite_ne h nofun` -/
theorem of_ite_ne {α : Type} {c : Prop} [Decidable c] {x y z : α} (h : (if c then x else y) = z) (hx : x ≠ z) :
    ¬c ∧ y = z :=
  (of_ite_eq h).resolve_left fun hc => hx hc.2

section
variable {α β : Type} [Inhabited α]

/-- `hφ` is for the out-of-bounds case -/
theorem get!_map [Inhabited β] (φ : α → β) (hφ : φ default = default) (a : Array α) (i : Nat) :
    (a.map φ)[i]! = φ a[i]! := by
  by_cases hi : i < a.size
  · simp [getElem!_pos, hi]
  · simp [getElem!_neg, hi, hφ]

theorem get!_of_get? {a : Array α} {i : Nat} {e : α} (h : a[i]? = some e) : a[i]! = e := by
  rw [getElem!_def, h]

theorem get!_modify (a : Array α) (i j : Nat) (f : α → α) :
    (a.modify i f)[j]! = if i = j ∧ j < a.size then f a[j]! else a[j]! := by
  by_cases hj : j < a.size
  · simp [getElem!_pos, hj, Array.getElem_modify]
  · simp [getElem!_neg, hj]

theorem get!_modify_ne {a : Array α} {i j : Nat} {f : α → α} (h : i ≠ j) : (a.modify i f)[j]! = a[j]! := by
  rw [get!_modify, if_neg fun c => h c.1]

theorem get!_modify_self {a : Array α} {i : Nat} {f : α → α} (hi : i < a.size) : (a.modify i f)[i]! = f a[i]! := by
  rw [get!_modify, if_pos ⟨rfl, hi⟩]

theorem apply_get!_modify (g : α → β) {a : Array α} {i j : Nat} {f : α → α} (hf : ∀ e, g (f e) = g e) :
    g (a.modify i f)[j]! = g a[j]! := by
  rw [get!_modify]
  split
  · exact hf _
  · rfl

theorem get!_push_lt {a : Array α} {j : Nat} (x : α) (hj : j < a.size) : (a.push x)[j]! = a[j]! := by
  simp [getElem!_pos, hj, Array.getElem_push, Nat.lt_succ_of_lt hj]

theorem get!_push_eq (a : Array α) (x : α) : (a.push x)[a.size]! = x := by
  simp [getElem!_pos]

theorem get!_push2_lt {a : Array α} {x y : α} {j : Nat} (hj : j < a.size) : ((a.push x).push y)[j]! = a[j]! := by
  rw [get!_push_lt y (Array.size_push x ▸ Nat.lt_succ_of_lt hj), get!_push_lt x hj]

theorem get!_push2_fst {a : Array α} {x y : α} : ((a.push x).push y)[a.size]! = x := by
  rw [get!_push_lt y (Array.size_push x ▸ Nat.lt_succ_self _), get!_push_eq]

theorem get!_push2_snd {a : Array α} {x y : α} : ((a.push x).push y)[a.size + 1]! = y :=
  Array.size_push x ▸ get!_push_eq (a.push x) y

theorem get!_set!_self {d : Array α} {i : Nat} (v : α) (h : i < d.size) : (d.set! i v)[i]! = v := by
  simp [h]

theorem get!_set!_ne {d : Array α} {i j : Nat} (v : α) (h : i ≠ j) : (d.set! i v)[j]! = d[j]! := by
  by_cases hj : j < d.size <;> simp [h, hj]

theorem set!_get!_self (d : Array α) (i : Nat) : d.set! i d[i]! = d := by
  by_cases h : i < d.size <;> simp [Array.setIfInBounds_def, h]

theorem get!_mem {xs : Array α} {k : Nat} (hk : k < xs.size) : xs[k]! ∈ xs.toList := by
  rw [getElem!_pos xs k hk]
  exact Array.getElem_mem_toList hk

theorem toList_eq_range_map (cs : Array α) : cs.toList = (List.range cs.size).map (fun j => cs[j]!) := by
  apply List.ext_getElem
  · simp
  · intro i h1 h2
    simp at h1
    simp [getElem!_pos, h1]

theorem get!_of_forall_mem {a : Array α} {P : α → Prop} (h : ∀ x ∈ a, P x) (hd : P default) (k : Nat) : P a[k]! := by
  by_cases hk : k < a.size
  · rw [getElem!_pos a k hk]
    exact h _ (Array.getElem_mem hk)
  · rw [getElem!_neg a k hk]
    exact hd

end

theorem forall_mem_push {α : Type} {P : α → Prop} {u : Array α} {y : α} (hu : ∀ x ∈ u, P x) (hy : P y) :
    ∀ x ∈ u.push y, P x :=
  fun x hx => (Array.mem_push.mp hx).elim (hu x) (· ▸ hy)

theorem forall_mem_modify {α : Type} {P : α → Prop} {cs : Array α} {k : Nat} {f : α → α} (hf : ∀ d, P d → P (f d))
    (h : ∀ d ∈ cs, P d) : ∀ d ∈ cs.modify k f, P d := by
  intro d hd
  obtain ⟨j, hj, rfl⟩ := Array.mem_iff_getElem.mp hd
  rw [Array.getElem_modify]
  split
  · exact hf _ (h _ (Array.getElem_mem _))
  · exact h _ (Array.getElem_mem _)

theorem forall_mem_ite {α : Type} {P : α → Prop} {c : Prop} [Decidable c] {u v : Array α} (hu : ∀ x ∈ u, P x)
    (hv : ∀ x ∈ v, P x) : ∀ x ∈ if c then u else v, P x := by
  split
  · exact hu
  · exact hv

theorem lt_add_two_cases {i n : Nat} (h : i < n + 2) : i < n ∨ i = n ∨ i = n + 1 :=
  (Nat.lt_succ_iff_lt_or_eq.mp h).elim (fun h => (Nat.lt_succ_iff_lt_or_eq.mp h).elim .inl (.inr ∘ .inl)) (.inr ∘ .inr)

theorem foldl_map_comm {α α' β β' : Type} (g : α → α') (G : β → β') (step : β → α → β) (step' : β' → α' → β')
    (hstep : ∀ b x, step' (G b) (g x) = G (step b x)) :
    ∀ (xs : List α) (b : β), (xs.map g).foldl step' (G b) = G (xs.foldl step b) := by
  intro xs b
  rw [List.foldl_map]
  exact List.foldl_hom G fun b x => hstep b x

theorem foldl_prefix {α β : Type} {f : β → α → β} {J : β → List α → Prop} (l : List α) (b : β) (h0 : J b [])
    (hstep : ∀ b done x, x ∈ l → J b done → J (f b x) (done ++ [x])) : J (l.foldl f b) l := by
  suffices h : ∀ (r done : List α) (b : β), (∀ x ∈ r, x ∈ l) → J b done → J (r.foldl f b) (done ++ r) from
    h l [] b (fun _ hx => hx) h0
  intro r
  induction r with
  | nil => intro done b _ h; rwa [List.append_nil]
  | cons x r ih =>
    intro done b hr h
    rw [List.append_cons]
    exact ih _ _ (fun y hy => hr y (List.mem_cons_of_mem _ hy)) (hstep b done x (hr x List.mem_cons_self) h)

theorem foldl_inv {α β : Type} {J : β → Prop} {f : β → α → β} {l : List α} {b : β}
    (hf : ∀ b, ∀ x ∈ l, J b → J (f b x)) (h : J b) : J (l.foldl f b) :=
  foldl_prefix (J := fun b _ => J b) l b h fun b _ x hx => hf b x hx

theorem foldl_range_inv {β : Type} {P : Nat → β → Prop} {f : β → Nat → β} {N : Nat}
    (h : ∀ n b, n < N → P n b → P (n + 1) (f b n)) {b : β} (hb : P 0 b) : P N ((List.range N).foldl f b) := by
  induction N with
  | zero => exact hb
  | succ N ih =>
    rw [List.range_succ, List.foldl_append]
    exact h N _ (Nat.lt_succ_self N) (ih fun n b hn => h n b (Nat.lt_succ_of_lt hn))

theorem map_modify {α β : Type} {φ : α → β} {g : α → α} {g' : β → β} (a : Array α) (i : Nat) (hg : ∀ e, φ (g e) = g' (φ e)) :
    (a.modify i g).map φ = (a.map φ).modify i g' := by
  apply Array.ext
  · simp
  · intro j h1 h2
    simp only [Array.getElem_map, Array.getElem_modify]
    split
    · exact hg _
    · rfl

/-- a function that cannot see `φ` cannot tell two arrays with the same image under `φ` apart -/
theorem apply_of_map_eq {α β : Type} {φ : α → α} (F : Array α → β) (hF : ∀ a, F (a.map φ) = F a) {a a' : Array α}
    (h : a.map φ = a'.map φ) : F a = F a' := by
  rw [← hF a, h, hF]

theorem mapM_map_comp {m : Type → Type} [Monad m] [LawfulMonad m] {α β γ : Type} (k : α → m β) (g : β → γ) (l : List α) :
    l.mapM (fun x => g <$> k x) = List.map g <$> l.mapM k := by
  induction l with
  | nil => simp
  | cons a l ih => simp [ih]

theorem getElem?_push_of_some {α : Type} {a : Array α} {i : Nat} {e : α} (x : α) (h : a[i]? = some e) :
    (a.push x)[i]? = some e := by
  obtain ⟨hi, rfl⟩ := Array.getElem?_eq_some_iff.mp h
  exact Array.getElem?_push_lt hi

theorem flatMap_congr_mem {α γ : Type} {l : List α} {f g : α → List γ} (h : ∀ j, j ∈ l → f j = g j) :
    l.flatMap f = l.flatMap g := by
  rw [List.flatMap_def, List.flatMap_def, List.map_congr_left h]

/-- appending one element to the list of one member of a duplicate-free index list -/
theorem flatMap_update_perm {α β : Type} [DecidableEq α] {l : List α} (hnd : l.Nodup) {f g : α → List β} {k : α} {x : β}
    (hk : k ∈ l) (hgk : g k = f k ++ [x]) (hg : ∀ j, j ∈ l → j ≠ k → g j = f j) :
    (l.flatMap g).Perm (l.flatMap f ++ [x]) := by
  -- bring `k` to the front: the rest of the list does not contain it
  have hp := List.perm_cons_erase hk
  refine (hp.flatMap_right g).trans (.trans ?_ ((hp.flatMap_right f).symm.append_right [x]))
  rw [List.flatMap_cons, List.flatMap_cons, hgk, List.append_assoc, List.append_assoc,
    flatMap_congr_mem fun j hj => hg j (List.mem_of_mem_erase hj) (hnd.mem_erase_iff.mp hj).1]
  exact .append_left _ List.perm_append_comm

theorem swapIfInBounds_perm {α : Type} (r : Array α) (i j : Nat) : (r.swapIfInBounds i j).Perm r := by
  rw [Array.swapIfInBounds_def]
  split
  · split
    · exact Array.swap_perm _ _
    · exact .rfl
  · exact .rfl

theorem mapM_all {m : Type → Type} [Monad m] [LawfulMonad m] {α β : Type} {f : α → m β} {g : α → β} :
    ∀ {l : List α}, (∀ x, x ∈ l → f x = pure (g x)) → l.mapM f = pure (l.map g)
  | [], _ => List.mapM_nil
  | a :: l, h => by
    rw [List.mapM_cons, h a List.mem_cons_self, mapM_all fun x hx => h x (List.mem_cons_of_mem _ hx),
      pure_bind, pure_bind, List.map_cons]

theorem flatMap_filter_if {α β : Type} (p : α → Bool) (F : α → List β) (l : List α) :
    (l.filter p).flatMap F = l.flatMap (fun x => if p x then F x else []) := by
  induction l with
  | nil => rfl
  | cons a l ih =>
    by_cases hp : p a = true
    · simp [hp, List.flatMap_cons, ih]
    · simp [hp, List.flatMap_cons, ih]

end Gbo
