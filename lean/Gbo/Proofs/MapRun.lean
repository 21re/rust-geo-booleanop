import Gbo.Proofs.FillFold
import Gbo.Proofs.EvMap
import Gbo.Proofs.Sim
import Gbo.Proofs.Run
/-
  Equivariance of the complete run under a map of the plane that preserves the coordinate order and the
  orientation sign and that the arithmetic commutes with (`RunMap`; scaling by c > 0 is one when the arithmetic scales
  exactly, Props/C08).
  The queue and the sweep line hold indices and compare them through the arena, so once the two orders are
  shown invariant, every index-level computation of the mapped run is *equal* to the one of the original run
  and only the points stored in the arena differ.
-/
namespace Gbo

variable {ar : Arith} {f : Pt → Pt} {gx gy : Rat → Rat}

def mapArena (f : Pt → Pt) (a : Arena) : Arena := a.map (fun e => { e with point := f e.point })
def mapSw (f : Pt → Pt) (st : SwSt) : SwSt := { st with arena := mapArena f st.arena }
def mapRes (f : Pt → Pt) (r : Nat × SwSt) : Nat × SwSt := (r.1, mapSw f r.2)

-- `mapArena f`, `mapSw f`, `mapRes f` are `Array.map`, `swMap`, `resMap` of `evMap f id id` (EvMap.lean), by `rfl`: the
-- lemmas below instantiate the `*_evMap` lemmas on that ground

theorem mapArena_eq (f : Pt → Pt) (a : Arena) : mapArena f a = a.map (evMap f id id) := rfl

theorem mapArena_get (h : RunMap ar f gx gy) (a : Arena) (i : Nat) :
    (mapArena f a)[i]! = { a[i]! with point := f a[i]!.point } :=
  h.sweep.vm.get a i

theorem cmpEv_map (h : RunMap ar f gx gy) (a : Arena) (i j : Nat) : cmpEv (mapArena f a) i j = cmpEv a i j :=
  h.sweep.vm.cmpEv_eq a i j
theorem segCmp_map (h : RunMap ar f gx gy) (dbg : Bool) (a : Arena) : segCmp ar dbg (mapArena f a) = segCmp ar dbg a :=
  segCmp_evMap h.sweep dbg a

theorem mapSw_arena (st : SwSt) : (mapSw f st).arena = mapArena f st.arena := rfl

theorem divideSegment_map (h : RunMap ar f gx gy) (cfg : Cfg) (st : SwSt) (seL : Nat) (p : Pt) :
    divideSegment ar cfg (mapSw f st) seL (f p) = exMap (mapSw f) (divideSegment ar cfg st seL p) :=
  divideSegment_evMap h.sweep cfg st seL p

theorem overlapBranch_map (h : RunMap ar f gx gy) (cfg : Cfg) (st : SwSt) (se1 o1 se2 o2 : Nat) :
    overlapBranch ar cfg (mapSw f st) se1 o1 se2 o2 = exMap (mapRes f) (overlapBranch ar cfg st se1 o1 se2 o2) :=
  overlapBranch_evMap h.sweep cfg st se1 o1 se2 o2

theorem possibleIntersection_map (h : RunMap ar f gx gy) (cfg : Cfg) (st : SwSt) (se1 se2 : Nat) :
    possibleIntersection ar cfg (mapSw f st) se1 se2 = exMap (mapRes f) (possibleIntersection ar cfg st se1 se2) :=
  possibleIntersection_evMap h.sweep cfg st se1 se2

theorem bboxAdd_map (h : RunMap ar f gx gy) (b : Option BBox) (p : Pt) :
    bboxAdd (b.map (mapBB gx gy)) (f p) = (bboxAdd b p).map (mapBB gx gy) := by
  cases b with
  | none => simp [bboxAdd, mapBB, h.sep]
  | some b =>
    simp only [bboxAdd, Option.map_some, mapBB, h.sep, h.ordX.rmin, h.ordX.rmax, h.ordY.rmin, h.ordY.rmax]

def mapFQ (f : Pt → Pt) (q : FQ) : FQ := { arena := mapArena f q.arena, heap := q.heap }
def mapSt (f : Pt → Pt) (gx gy : Rat → Rat) (st : FQ × Option BBox) : FQ × Option BBox :=
  (mapFQ f st.1, st.2.map (mapBB gx gy))
def mapPoly (f : Pt → Pt) (p : Poly) : Poly := { ext := p.ext.map f, holes := p.holes.map (List.map f) }

theorem mkPair_map (h : RunMap ar f gx gy) (n : Nat) (s e : Pt) (subj : Bool) (cid : Nat) (ext : Bool) :
    mkPair n (f s) (f e) subj cid ext =
      (evMap f id id (mkPair n s e subj cid ext).1, evMap f id id (mkPair n s e subj cid ext).2) := by
  have hc := cmpView_map f h.op ⟨s, false, some e, subj⟩ ⟨e, false, some s, subj⟩
  simp only [mkPair, evMap, id_eq, ← hc, mapView, Option.map_some]

theorem processLine_map (h : RunMap ar f gx gy) (subj : Bool) (cid : Nat) (ext : Bool) (st : FQ × Option BBox) (s e : Pt) :
    processLine subj cid ext (mapSt f gx gy st) (f s) (f e) = mapSt f gx gy (processLine subj cid ext st s e) := by
  rw [processLine_eq, processLine_eq]
  simp only [h.inj]
  split
  · rfl
  · obtain ⟨fq, bb⟩ := st
    simp only [mapSt, mapFQ, mapArena_eq, Array.size_map, mkPair_map h, bboxAdd_map h, ← Array.map_push, h.sweep.vm.evLe_eq]

theorem processRing_map (h : RunMap ar f gx gy) (subj : Bool) (cid : Nat) (ext : Bool) :
    ∀ (ring : Ring) (st : FQ × Option BBox),
      processRing subj cid ext (mapSt f gx gy st) (ring.map f) = mapSt f gx gy (processRing subj cid ext st ring)
  | [], _ | [_], _ => rfl
  | p :: q :: rest, st => by
    rw [List.map_cons, List.map_cons, processRing, processLine_map h, ← List.map_cons,
      processRing_map h subj cid ext (q :: rest), processRing]

theorem processPolygon_map (h : RunMap ar f gx gy) (subj : Bool) (cid : Nat) (ext : Bool) (st : FQ × Option BBox) (p : Poly) :
    processPolygon subj cid ext (mapSt f gx gy st) (mapPoly f p) = mapSt f gx gy (processPolygon subj cid ext st p) := by
  unfold processPolygon mapPoly
  rw [processRing_map h]
  exact foldl_map_comm (List.map f) (mapSt f gx gy) _ _ (fun st r => processRing_map h subj cid false r st) _ _

theorem subjStep_map (h : RunMap ar f gx gy) (acc : Nat × FQ × Option BBox) (p : Poly) :
    subjStep (acc.map id (mapSt f gx gy)) (mapPoly f p) = (subjStep acc p).map id (mapSt f gx gy) :=
  congrArg (fun r : FQ × Option BBox => (acc.1 + 1, r.1, r.2)) (processPolygon_map h true (acc.1 + 1) true acc.2 p)

theorem clipStep_map (h : RunMap ar f gx gy) (op : Op) (acc : Nat × FQ × Option BBox) (p : Poly) :
    clipStep op (acc.map id (mapSt f gx gy)) (mapPoly f p) = (clipStep op acc p).map id (mapSt f gx gy) :=
  congrArg (fun r : FQ × Option BBox => (if (op != .difference) = true then acc.1 + 1 else acc.1, r.1, r.2))
    (processPolygon_map h false _ (op != .difference) acc.2 p)

def mapFill (f : Pt → Pt) (gx gy : Rat → Rat) (o : FillOut) : FillOut :=
  { fq := mapFQ f o.fq, sbbox := o.sbbox.map (mapBB gx gy), cbbox := o.cbbox.map (mapBB gx gy) }

theorem fillQueue_map (h : RunMap ar f gx gy) (subject clipping : MPoly) (op : Op) :
    fillQueue (subject.map (mapPoly f)) (clipping.map (mapPoly f)) op = mapFill f gx gy (fillQueue subject clipping op) := by
  have h0 : Prod.map id (mapSt f gx gy) (0, {}, none) = (0, {}, none) := by simp [mapSt, mapFQ, mapArena]
  have hs := foldl_map_comm (mapPoly f) (Prod.map id (mapSt f gx gy)) subjStep subjStep (subjStep_map h) subject (0, {}, none)
  rw [h0] at hs
  simp only [fillQueue, hs]
  exact congrArg (fun r : Nat × FQ × Option BBox => (⟨r.2.1, _, r.2.2⟩ : FillOut))
    (foldl_map_comm (mapPoly f) (Prod.map id (mapSt f gx gy)) _ _ (clipStep_map h op) clipping (_, _, none))

theorem computeFields_map (h : RunMap ar f gx gy) (a : Arena) (event : Nat) (prev : Option Nat) (op : Op) :
    computeFields (mapArena f a) event prev op = mapArena f (computeFields a event prev op) := by
  simp only [computeFields, mapArena_eq, h.sweep.vm.get, h.sweep.vm.view, isVertical_map h.op, evMap, id_eq]
  symm
  exact map_modify _ _ fun _ => rfl

theorem map_arenaSim (h : RunMap ar f gx gy) (op : Op) : ArenaSim ar ar op op (fun a a' => a' = mapArena f a) where
  left ha i := by rw [ha, mapArena_get h]
  other ha i := by rw [ha, mapArena_get h]
  evLe ha := ha ▸ (h.sweep.vm.evLe_eq _).symm
  segCmp ha dbg := ha ▸ (segCmp_map h dbg _).symm
  fields ha := ha ▸ computeFields_map h _ _ _ op
  pi := by
    rintro _ _ _ _ _ ⟨rfl⟩
    exact .of_eq_exMap (possibleIntersection_map h _ ⟨_, _, _, _, _, _⟩ _ _) fun _ => ⟨rfl, ⟨rfl⟩⟩

theorem exitsAt_map (h : RunMap ar f gx gy) (op : Op) (rb sx : Rat) (p : Pt) :
    exitsAt op (gx rb) (gx sx) (f p) = exitsAt op rb sx p := by
  simp only [exitsAt, h.sep, gt_iff_lt, h.ordX.lt]

theorem sweepStep_map (h : RunMap ar f gx gy) (cfg : Cfg) (op : Op) (rb sx : Rat) (st : SwSt) (event : Nat) :
    sweepStep ar cfg op (gx rb) (gx sx) (mapSw f st) event =
      exMap (fun r : Bool × SwSt => (r.1, mapSw f r.2)) (sweepStep ar cfg op rb sx st event) := by
  refine (sweepStep_sim (map_arenaSim h op) (st := st) ⟨rfl⟩ ?_).eq_exMap ?_
  · simp only [mapArena_get h, exitsAt_map h]
  · rintro ⟨b, s⟩ ⟨b', s'⟩ ⟨rfl, ⟨rfl⟩⟩
    rfl

def mapSweepOut (f : Pt → Pt) (o : SweepOut) : SweepOut := { o with arena := mapArena f o.arena }

theorem subdivide_map (h : RunMap ar f gx gy) (cfg : Cfg) (fq : FQ) (sb cb : BBox) (op : Op) :
    subdivide ar cfg (mapFQ f fq) (mapBB gx gy sb) (mapBB gx gy cb) op =
      exMap (mapSweepOut f) (subdivide ar cfg fq sb cb op) := by
  refine (subdivide_sim (map_arenaSim h op) (fq := fq) (fq' := mapFQ f fq) rfl rfl ?_).eq_exMap ?_
  · rintro a _ rfl i
    simp only [mapArena_get h, mapBB, h.ordX.rmin, exitsAt_map h]
  · rintro o o' ⟨ha, ho⟩
    rw [ho, ha]
    rfl

theorem bubblePass_map (h : RunMap ar f gx gy) (a : Arena) (r : Array Nat) : bubblePass (mapArena f a) r = bubblePass a r := by
  simp only [bubblePass, cmpEv_map h]

theorem bubbleSort_map (h : RunMap ar f gx gy) (a : Arena) :
    ∀ (fuel : Nat) (r : Array Nat), bubbleSort (mapArena f a) fuel r = bubbleSort a fuel r
  | 0, _ => rfl
  | fuel + 1, r => by
    rw [bubbleSort, bubbleSort, bubblePass_map h]
    simp only [bubbleSort_map h a fuel]

theorem mapArena_modify_otherPos (a : Arena) (i : Nat) (v : Int) :
    (mapArena f a).modify i (fun e => { e with otherPos := v }) = mapArena f (a.modify i (fun e => { e with otherPos := v })) :=
  Eq.symm (map_modify a i fun _ => rfl)

theorem mapArena_modify_contour (a : Arena) (i : Nat) (v : Int) :
    (mapArena f a).modify i (fun e => { e with outputContourId := v }) =
      mapArena f (a.modify i (fun e => { e with outputContourId := v })) :=
  Eq.symm (map_modify a i fun _ => rfl)

theorem orderEvents_map (h : RunMap ar f gx gy) (a : Arena) (sorted : Array Nat) :
    orderEvents (mapArena f a) sorted =
      exMap (fun r : Array Nat × Arena => (r.1, mapArena f r.2)) (orderEvents a sorted) := by
  unfold orderEvents
  simp only [mapArena_get h, bubbleSort_map h]
  cases bubbleSort a _ _ with
  | none => rfl
  | some res =>
    refine congrArg (fun a' => Except.ok (res, a')) ?_
    rw [List.foldl_hom (mapArena f) (fun a pos => mapArena_modify_otherPos a _ _), ← Array.foldl_toList,
      ← Array.foldl_toList]
    refine List.foldl_hom (mapArena f) fun a i => ?_
    simp only [mapArena_get h]
    split
    · cases a[i]!.other with
      | none => rfl
      | some o => simp only [mapArena_modify_otherPos]
    · rfl

def mapData (f : Pt → Pt) (d : Array (Pt × Bool)) : Array (Pt × Bool) := d.map (fun x => (f x.1, x.2))

theorem mapData_get (h : RunMap ar f gx gy) (d : Array (Pt × Bool)) (j : Nat) :
    (mapData f d)[j]! = (f d[j]!.1, d[j]!.2) :=
  get!_map (fun x : Pt × Bool => (f x.1, x.2)) (congrArg (·, false) h.zero) d j

theorem mapData_size (d : Array (Pt × Bool)) : (mapData f d).size = d.size := Array.size_map

/-- every read of the data in `iterationOrderLoop` is an equality test between two points (`h.inj`) or a flag: after
    rewriting the reads the two sides are the same term up to the recursive call -/
theorem iterationOrderLoop_map (h : RunMap ar f gx gy) (d : Array (Pt × Bool)) :
    ∀ (fuel i : Nat) (m : Array Nat), iterationOrderLoop (mapData f d) fuel i m = iterationOrderLoop d fuel i m := by
  intro fuel
  induction fuel with
  | zero => exact fun _ _ => rfl
  | succ fuel ih =>
    intro i m
    -- unfolds both sides by computation; `unfold iterationOrderLoop` would have Lean prove the unfolding equation first
    show ite _ _ _ = ite _ _ _
    simp only [mapData_size, mapData_get h, h.inj, ih]

theorem precomputeIterationOrder_map (h : RunMap ar f gx gy) (d : Array (Pt × Bool)) :
    precomputeIterationOrder (mapData f d) = precomputeIterationOrder d := by
  rw [precomputeIterationOrder, mapData_size, iterationOrderLoop_map h, precomputeIterationOrder]

theorem resData_map (h : RunMap ar f gx gy) (a : Arena) (res : Array Nat) :
    res.map (fun i => ((mapArena f a)[i]!.point, (mapArena f a)[i]!.left)) =
      mapData f (res.map (fun i => (a[i]!.point, a[i]!.left))) := by
  unfold mapData
  simp only [mapArena_get h, Array.map_map]
  rfl

def mapContour (f : Pt → Pt) (c : Contour) : Contour := { c with points := c.points.map f }
def mapContours (f : Pt → Pt) (cs : Array Contour) : Array Contour := cs.map (mapContour f)

theorem mapContour_holeOf (c : Contour) : (mapContour f c).holeOf = c.holeOf := rfl
theorem mapContour_depth (c : Contour) : (mapContour f c).depth = c.depth := rfl
theorem mapContour_holeIds (c : Contour) : (mapContour f c).holeIds = c.holeIds := rfl
theorem mapContour_points (c : Contour) : (mapContour f c).points = c.points.map f := rfl

theorem mapContour_nopoints (ho : Option Int) (d : Int) :
    mapContour f { holeOf := ho, depth := d } = { holeOf := ho, depth := d } := by
  simp [mapContour]

theorem mapContours_size (cs : Array Contour) : (mapContours f cs).size = cs.size := Array.size_map

theorem mapContours_get (cs : Array Contour) (i : Nat) : (mapContours f cs)[i]! = mapContour f cs[i]! :=
  get!_map (mapContour f) (mapContour_nopoints none 0) cs i

theorem mapContours_modify (cs : Array Contour) (i : Nat) (cid : Int) :
    mapContours f (cs.modify i (fun c => { c with holeIds := c.holeIds.push cid })) =
      (mapContours f cs).modify i (fun c => { c with holeIds := c.holeIds.push cid }) :=
  map_modify cs i fun _ => rfl

theorem mapContours_push (cs : Array Contour) (c : Contour) :
    mapContours f (cs.push c) = (mapContours f cs).push (mapContour f c) := Array.map_push

theorem initializeFromContext_map (h : RunMap ar f gx gy) (cfg : Cfg) (a : Arena) (event : Nat) (cs : Array Contour) (cid : Int) :
    initializeFromContext cfg (mapArena f a) event (mapContours f cs) cid =
      exMap (fun r : Contour × Array Contour => (mapContour f r.1, mapContours f r.2))
        (initializeFromContext cfg a event cs cid) := by
  unfold initializeFromContext
  -- no read sees a point; `exMap` goes to the leaves, where the new contour has no points yet
  simp only [mapArena_get h, mapContours_size, mapContours_get, mapContour_holeOf, mapContour_depth]
  cases a[event]!.prevInResult with
  | none => simp only [exMap_ok, mapContour_nopoints]
  | some pir =>
    dsimp only
    cases cs[(a[pir]!.outputContourId).toNat]!.holeOf <;>
      simp only [exMap_ite, exMap_ok, exMap_error, mapContours_modify, mapContour_nopoints]

def mapCE (f : Pt → Pt) (st : CE) : CE :=
  { arena := mapArena f st.arena, processed := st.processed, contour := mapContour f st.contour }

/-- the step of `contourLoop` up to the search for the next position: marks, links, the new point -/
def contourAdvance (res : Array Nat) (contourId : Int) (st : CE) (pos : Nat) : CE × Nat :=
  let a := st.arena.modify res[pos]! (fun e => { e with outputContourId := contourId })
  let pos' := a[res[pos]!]!.otherPos.toNat
  let a' := a.modify res[pos']! (fun e => { e with outputContourId := contourId })
  ({ arena := a', processed := (st.processed.set! pos true).set! pos' true,
     contour := { st.contour with points := st.contour.points.push a'[res[pos']!]!.point } }, pos')

theorem contourLoop_succ (res map : Array Nat) (cid : Int) (initial : Pt) (fuel : Nat) (st : CE) (pos : Nat) :
    contourLoop res map cid initial (fuel + 1) st pos =
      if pos ≥ res.size then .error (.panic .indexEvents) else
      if !idxOk res.size (st.arena.modify res[pos]! (fun e => { e with outputContourId := cid }))[res[pos]!]!.otherPos then
        .error (.panic .indexEvents) else
      let r := contourAdvance res cid st pos
      match getNextPosLoop r.2 r.1.processed map (res.size + 1) r.2 with
      | .error e => .error e
      | .ok none => .ok r.1
      | .ok (some npos) =>
        if r.1.arena[res[npos]!]!.point = initial then .ok r.1
        else contourLoop res map cid initial fuel r.1 npos := by
  rfl

theorem contourAdvance_map (h : RunMap ar f gx gy) (res : Array Nat) (cid : Int) (st : CE) (pos : Nat) :
    contourAdvance res cid (mapCE f st) pos = ((mapCE f (contourAdvance res cid st pos).1), (contourAdvance res cid st pos).2) := by
  unfold contourAdvance mapCE
  simp only [mapArena_modify_contour, mapArena_get h, mapContour, Array.map_push]

theorem mapCE_arena (st : CE) : (mapCE f st).arena = mapArena f st.arena := rfl
theorem mapCE_processed (st : CE) : (mapCE f st).processed = st.processed := rfl

theorem contourLoop_map (h : RunMap ar f gx gy) (res map : Array Nat) (cid : Int) (initial : Pt) :
    ∀ (fuel : Nat) (st : CE) (pos : Nat),
      contourLoop res map cid (f initial) fuel (mapCE f st) pos = exMap (mapCE f) (contourLoop res map cid initial fuel st pos) := by
  intro fuel
  induction fuel with
  | zero => exact fun _ _ => rfl
  | succ fuel ih =>
    intro st pos
    rw [contourLoop_succ, contourLoop_succ, contourAdvance_map h, exMap_ite, exMap_ite]
    generalize contourAdvance res cid st pos = r
    simp only [mapCE_arena, mapCE_processed, mapArena_modify_contour, mapArena_get h, h.inj]
    refine ite_congr rfl (fun _ => rfl) fun _ => ite_congr rfl (fun _ => rfl) fun _ => ?_
    cases getNextPosLoop r.2 r.1.processed map (res.size + 1) r.2 with
    | error e => rfl
    | ok o =>
      cases o with
      | none => rfl
      | some npos =>
        rw [exMap_ite]
        exact ite_congr rfl (fun _ => rfl) fun _ => ih r.1 npos

def mapCA (f : Pt → Pt) (r : Array Contour × Arena) : Array Contour × Arena := (mapContours f r.1, mapArena f r.2)

theorem connectEdges_go_map (h : RunMap ar f gx gy) (cfg : Cfg) (res map : Array Nat) (fuel i : Nat) (a : Arena)
    (processed : Array Bool) (cs : Array Contour) :
    connectEdges.go cfg res map fuel i (mapArena f a) processed (mapContours f cs) =
      exMap (mapCA f) (connectEdges.go cfg res map fuel i a processed cs) := by
  induction fuel generalizing i a processed cs with
  | zero => rfl
  | succ fuel ih =>
    -- both sides unfold by computation: `rw [connectEdges.go]` would have Lean prove the unfolding equation first
    show ite _ _ _ = exMap _ (ite _ _ _)
    rw [exMap_ite, exMap_ite]
    refine ite_congr rfl (fun _ => rfl) fun _ => ite_congr rfl (fun _ => ih ..) fun _ => ?_
    dsimp only
    rw [mapContours_size, initializeFromContext_map h]
    cases initializeFromContext cfg a res[i]! cs (cs.size : Int) with
    | error e => rfl
    | ok r =>
      obtain ⟨contour, cs1⟩ := r
      have key := contourLoop_map h res map (cs.size : Int) a[res[i]!]!.point (res.size + 1)
        ⟨a, processed, { contour with points := contour.points.push a[res[i]!]!.point }⟩ i
      simp only [mapCE, mapContour, Array.map_push] at key
      simp only [exMap_ok, mapArena_get h, mapContour, key]
      cases contourLoop res map (cs.size : Int) a[res[i]!]!.point (res.size + 1) _ i with
      | error e => rfl
      | ok st => exact (mapContours_push cs1 st.contour ▸ ih (i + 1) st.arena st.processed (cs1.push st.contour) :)

theorem connectEdges_map (h : RunMap ar f gx gy) (cfg : Cfg) (a : Arena) (sorted : Array Nat) :
    connectEdges cfg (mapArena f a) sorted = exMap (mapCA f) (connectEdges cfg a sorted) := by
  unfold connectEdges
  rw [orderEvents_map h]
  cases orderEvents a sorted with
  | error e => rfl
  | ok r =>
    obtain ⟨res, a1⟩ := r
    simp only [exMap_ok]
    rw [resData_map h, precomputeIterationOrder_map h]
    have key := connectEdges_go_map h cfg res (precomputeIterationOrder (res.map fun i => (a1[i]!.point, a1[i]!.left)))
      (res.size + 1) 0 a1 (Array.replicate res.size false) #[]
    rwa [show mapContours f (#[] : Array Contour) = #[] by simp [mapContours]] at key

theorem closeRing_map (h : RunMap ar f gx gy) (r : Ring) : closeRing (r.map f) = (closeRing r).map f := by
  cases r with
  | nil => rfl
  | cons p rest =>
    have hl : (f p :: rest.map f).getLast? = some (f p) ↔ (p :: rest).getLast? = some p := by
      rw [← List.map_cons, List.getLast?_map]
      cases (p :: rest).getLast? <;> simp [h.inj]
    simp only [closeRing, List.map_cons, hl, apply_ite (List.map f), List.map_append, List.map_nil]

theorem boxesDisjoint_map (h : RunMap ar f gx gy) (sb cb : Option BBox) :
    boxesDisjoint (sb.map (mapBB gx gy)) (cb.map (mapBB gx gy)) = boxesDisjoint sb cb := by
  cases sb with
  | none => rfl
  | some s =>
    cases cb with
    | none => rfl
    | some c =>
      simp only [boxesDisjoint, Option.map_some, mapBB, gt_iff_lt, h.ordX.lt, h.ordY.lt]

theorem trivialResult_map (subject clipping : MPoly) (op : Op) :
    trivialResult (subject.map (mapPoly f)) (clipping.map (mapPoly f)) op =
      (trivialResult subject clipping op).map (mapPoly f) := by
  cases op <;> simp [trivialResult]

def mapOut (f : Pt → Pt) (o : RunOut) : RunOut := { o with result := o.result.map (mapPoly f) }

theorem assemble_map (h : RunMap ar f gx gy) (cs : Array Contour) :
    assemblePolys (mapContours f cs) = exMap (List.map (mapPoly f)) (assemblePolys cs) := by
  have hl : (mapContours f cs).toList.filter (fun c => c.holeOf.isNone) =
      (cs.toList.filter (fun c => c.holeOf.isNone)).map (mapContour f) := by
    simp only [mapContours, Array.toList_map, List.filter_map]
    rfl
  have hole : ∀ hh : Int,
      (if idxOk (mapContours f cs).size hh then some (closeRing (mapContours f cs)[hh.toNat]!.points.toList) else none) =
        List.map f <$> (if idxOk cs.size hh then some (closeRing cs[hh.toNat]!.points.toList) else none) := by
    intro hh
    simp only [mapContours_size, mapContours_get, mapContour_points, Array.toList_map, closeRing_map h,
      apply_ite (List.map f <$> ·), Option.map_eq_map, Option.map_some, Option.map_none]
  unfold assemblePolys
  -- both levels: `mapM` over mapped elements is the mapped `mapM`
  rw [hl, List.mapM_map, exMap_eq_map, ← mapM_map_comp]
  refine congrArg (List.mapM · _) (funext fun c => ?_)
  simp only [Function.comp, hole, mapM_map_comp, mapContour_holeIds, mapContour_points, Array.toList_map, closeRing_map h]
  generalize (List.mapM _ c.holeIds.toList : Option (List Ring)) = o
  cases o with
  | none => rfl
  | some holes => rfl

theorem sweepRun_map (h : RunMap ar f gx gy) (cfg : Cfg) (fq : FQ) (sb cb : BBox) (op : Op) :
    sweepRun ar cfg (mapFQ f fq) (mapBB gx gy sb) (mapBB gx gy cb) op = exMap (mapOut f) (sweepRun ar cfg fq sb cb op) := by
  unfold sweepRun
  simp only [subdivide_map h, connectEdges_map h, assemble_map h, mapSweepOut, mapCA, exMap_eq_map, map_bind,
    bind_map_left, map_pure]
  rfl

end Gbo
