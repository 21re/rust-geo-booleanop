import Gbo.Proofs.Step
/-
  Two runs of the sweep side by side: arithmetics `ar`, `ar'`, operations `op`, `op'`, arenas related by an abstract
  `RA`.  `ArenaSim` says what the loop needs of `RA`; then `check*`, one iteration, the loop and `subdivide` keep
  the states related (`*_sim`).  Instances: the mapped run (MapRun), the run with the operation-dependent fields
  forgotten (Strip), the run under an arithmetic with the same intersections (ArithFrame).
-/
namespace Gbo

/-- an inductive with one constructor, so that matching a proof `⟨ha⟩` identifies the five other components of the two
    states at once -/
inductive SwRel (RA : Arena → Arena → Prop) : SwSt → SwSt → Prop
  | mk {a a' : Arena} {h : Array Nat} {l : SplayTree Nat Unit} {s : Array Nat} {p b : Nat} :
      RA a a' → SwRel RA ⟨a, h, l, s, p, b⟩ ⟨a', h, l, s, p, b⟩

def ResRel {κ : Type} (RA : Arena → Arena → Prop) (r r' : κ × SwSt) : Prop := r.1 = r'.1 ∧ SwRel RA r.2 r'.2

/-- what the loop needs of a relation between the arenas of two runs: it reads them through both orders, the `left`
    flag and the partner link, and writes them through `compute_fields` and `possible_intersection` -/
structure ArenaSim (ar ar' : Arith) (op op' : Op) (RA : Arena → Arena → Prop) : Prop where
  left : ∀ {a a' : Arena}, RA a a' → ∀ i : Nat, a[i]!.left = a'[i]!.left
  other : ∀ {a a' : Arena}, RA a a' → ∀ i : Nat, a[i]!.other = a'[i]!.other
  evLe : ∀ {a a' : Arena}, RA a a' → evLe a = evLe a'
  segCmp : ∀ {a a' : Arena}, RA a a' → ∀ dbg, segCmp ar dbg a = segCmp ar' dbg a'
  fields : ∀ {a a' : Arena} {e : Nat} {p : Option Nat}, RA a a' → RA (computeFields a e p op) (computeFields a' e p op')
  pi : ∀ {cfg : Cfg} {st st' : SwSt} {i j : Nat}, SwRel RA st st' →
    ExRel (ResRel RA) (possibleIntersection ar cfg st i j) (possibleIntersection ar' cfg st' i j)

section
variable {ar ar' : Arith} {op op' : Op} {RA : Arena → Arena → Prop} (hs : ArenaSim ar ar' op op' RA)
include hs

theorem checkNext_sim {cfg : Cfg} {st st' : SwSt} {event : Nat} {prev next : Option Nat} (h : SwRel RA st st') :
    ExRel (SwRel RA) (checkNext ar cfg op st event prev next) (checkNext ar' cfg op' st' event prev next) := by
  cases next with
  | none => exact h
  | some nx =>
    refine (hs.pi h).bind ?_
    rintro ⟨c, s⟩ ⟨c', s'⟩ ⟨rfl, ⟨ha⟩⟩
    exact .ite (fun _ => ⟨hs.fields (hs.fields ha)⟩) fun _ => ⟨ha⟩

theorem checkPrev_sim {cfg : Cfg} {st st' : SwSt} {event : Nat} {prev : Option Nat} (h : SwRel RA st st') :
    ExRel (SwRel RA) (checkPrev ar cfg op st event prev) (checkPrev ar' cfg op' st' event prev) := by
  cases prev with
  | none => exact h
  | some pv =>
    refine (hs.pi h).bind ?_
    rintro ⟨c, s⟩ ⟨c', s'⟩ ⟨rfl, ⟨ha⟩⟩
    dsimp only
    rw [hs.segCmp ha]
    exact .ite (fun _ => ⟨hs.fields (hs.fields ha)⟩) fun _ => ⟨ha⟩

theorem checkRemoval_sim {cfg : Cfg} {st st' : SwSt} {prev next : Option (Nat × Unit)} (h : SwRel RA st st') :
    ExRel (SwRel RA) (checkRemoval ar cfg st prev next) (checkRemoval ar' cfg st' prev next) := by
  unfold checkRemoval
  split
  · exact (hs.pi h).bind fun _ _ hr => hr.2
  · exact h

theorem stepLeft_sim {cfg : Cfg} {st st' : SwSt} {event : Nat} (h : SwRel RA st st') :
    ExRel (ResRel RA) (stepLeft ar cfg op st event) (stepLeft ar' cfg op' st' event) := by
  obtain ⟨ha⟩ := h
  unfold stepLeft keyOk
  simp only [hs.left ha, hs.other ha, hs.segCmp ha]
  refine .ite (fun _ => rfl) fun _ => ?_
  refine (checkNext_sim hs ⟨hs.fields ha⟩).bind fun s1 s1' h1 => ?_
  exact (checkPrev_sim hs h1).bind fun s2 s2' h2 => ⟨rfl, h2⟩

theorem stepRight_sim {cfg : Cfg} {st st' : SwSt} {other : Nat} (h : SwRel RA st st') :
    ExRel (ResRel RA) (stepRight ar cfg st other) (stepRight ar' cfg st' other) := by
  obtain ⟨ha⟩ := h
  unfold stepRight
  simp only [hs.segCmp ha]
  refine .ite (fun _ => rfl) fun _ => .ite (fun _ => ⟨rfl, ⟨ha⟩⟩) fun _ => ?_
  refine (checkRemoval_sim hs ⟨ha⟩).bind ?_
  rintro _ _ ⟨h1⟩
  rw [hs.segCmp h1]
  exact ⟨rfl, ⟨h1⟩⟩

theorem sweepStep_sim {cfg : Cfg} {rb sx rb' sx' : Rat} {st st' : SwSt} {event : Nat} (h : SwRel RA st st')
    (hx : exitsAt op rb sx st.arena[event]!.point = exitsAt op' rb' sx' st'.arena[event]!.point) :
    ExRel (ResRel RA) (sweepStep ar cfg op rb sx st event) (sweepStep ar' cfg op' rb' sx' st' event) := by
  rw [sweepStep_eq, sweepStep_eq, hx]
  obtain ⟨ha⟩ := h
  simp only [hs.left ha, hs.other ha]
  refine .ite (fun _ => ⟨rfl, ⟨ha⟩⟩) fun _ => .ite (fun _ => stepLeft_sim hs ⟨ha⟩) fun _ => ?_
  split
  · exact ⟨rfl, ⟨ha⟩⟩
  · exact stepRight_sim hs ⟨ha⟩

theorem sweepLoop_sim {cfg : Cfg} {rb sx rb' sx' : Rat}
    (hx : ∀ {a a' : Arena}, RA a a' → ∀ i : Nat, exitsAt op rb sx a[i]!.point = exitsAt op' rb' sx' a'[i]!.point) :
    ∀ (fuel : Nat) {st st' : SwSt}, SwRel RA st st' →
      ExRel (SwRel RA) (sweepLoop ar cfg op rb sx fuel st) (sweepLoop ar' cfg op' rb' sx' fuel st') := by
  intro fuel
  induction fuel with
  | zero =>
    rintro _ _ ⟨_⟩
    rfl
  | succ fuel ih =>
    rintro _ _ ⟨ha⟩
    rw [sweepLoop_succ, sweepLoop_succ]
    dsimp only
    rw [hs.evLe ha]
    split
    · exact ⟨ha⟩
    · refine .ite (fun _ => rfl) fun _ => (sweepStep_sim hs ⟨ha⟩ (hx ha _)).bind ?_
      rintro ⟨b, s⟩ ⟨b', s'⟩ ⟨rfl, h1⟩
      exact .ite (fun _ => h1) fun _ => ih h1

/-- the result relation: related arenas, everything else equal -/
theorem subdivide_sim {cfg : Cfg} {fq fq' : FQ} {sb cb sb' cb' : BBox} (ha : RA fq.arena fq'.arena)
    (hh : fq.heap = fq'.heap)
    (hx : ∀ {a a' : Arena}, RA a a' → ∀ i : Nat,
      exitsAt op (rmin sb.maxx cb.maxx) sb.maxx a[i]!.point = exitsAt op' (rmin sb'.maxx cb'.maxx) sb'.maxx a'[i]!.point) :
    ExRel (fun o o' : SweepOut => RA o.arena o'.arena ∧ o' = { o with arena := o'.arena })
      (subdivide ar cfg fq sb cb op) (subdivide ar' cfg fq' sb' cb' op') := by
  rw [subdivide_eq, subdivide_eq, hh]
  refine (sweepLoop_sim hs hx _ ⟨ha⟩).map ?_
  rintro _ _ ⟨h1⟩
  exact ⟨h1, rfl⟩

end
end Gbo
