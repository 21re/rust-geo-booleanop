import Gbo.Proofs.SplayInorder
/-
  Search-tree reasoning for the splay model: what a lawful comparator (`LawfulCmp`) gives, the tree as a sorted
  in-order sequence (`Bst`), and how the order turns a bound on the last or first entry of a sorted sequence (what
  `splay_closest` gives) into a bound on all of it (`allLt_of_getLast?`, `allGt_of_head?`).
-/
namespace Gbo

/-- a consistent comparator: a strict weak order presented as a three-way comparison -/
structure LawfulCmp {K : Type} (cmp : K → K → Ordering) : Prop where
  refl : ∀ a, cmp a a = .eq
  swap : ∀ a b, cmp b a = (cmp a b).swap
  lt_trans : ∀ {a b c}, cmp a b = .lt → cmp b c = .lt → cmp a c = .lt
  eq_lt : ∀ {a b c}, cmp a b = .eq → cmp b c = .lt → cmp a c = .lt
  lt_eq : ∀ {a b c}, cmp a b = .lt → cmp b c = .eq → cmp a c = .lt
  eq_trans : ∀ {a b c}, cmp a b = .eq → cmp b c = .eq → cmp a c = .eq

namespace LawfulCmp
variable {K : Type} {cmp : K → K → Ordering} (h : LawfulCmp cmp)
include h

theorem gt_iff (a b : K) : cmp a b = .gt ↔ cmp b a = .lt := by
  rw [h.swap a b]
  exact Ordering.swap_eq_lt.symm

theorem lt_iff (a b : K) : cmp a b = .lt ↔ cmp b a = .gt := (h.gt_iff b a).symm

theorem eq_comm (a b : K) : cmp a b = .eq ↔ cmp b a = .eq := by
  rw [h.swap a b]
  exact Ordering.swap_eq_eq.symm

theorem gt_eq {a b c : K} (h1 : cmp a b = .gt) (h2 : cmp b c = .eq) : cmp a c = .gt := by
  rw [h.gt_iff] at *
  exact h.eq_lt ((h.eq_comm _ _).1 h2) h1

end LawfulCmp

namespace Tree
variable {K V : Type}

def SortedKV (cmp : K → K → Ordering) (l : List (K × V)) : Prop := l.Pairwise (fun x y => cmp x.1 y.1 = .lt)

def Bst (cmp : K → K → Ordering) (t : Tree K V) : Prop := SortedKV cmp (inorder t)

theorem bst_node_iff (cmp : K → K → Ordering) (l : Tree K V) (k : K) (v : V) (r : Tree K V) :
    Bst cmp (node l k v r) ↔
      Bst cmp l ∧ Bst cmp r ∧ (∀ x ∈ inorder l, cmp x.1 k = .lt) ∧ (∀ y ∈ inorder r, cmp k y.1 = .lt)
      ∧ (∀ x ∈ inorder l, ∀ y ∈ inorder r, cmp x.1 y.1 = .lt) := by
  simp only [Bst, SortedKV, inorder, List.pairwise_append, List.pairwise_cons, List.mem_cons]
  constructor
  · rintro ⟨hl, ⟨hk, hr⟩, hx⟩
    exact ⟨hl, hr, fun x hx' => hx x hx' _ (Or.inl rfl), hk, fun x hx' y hy => hx x hx' y (Or.inr hy)⟩
  · rintro ⟨hl, hr, h1, h2, h3⟩
    refine ⟨hl, ⟨h2, hr⟩, ?_⟩
    intro x hx y hy
    rcases hy with rfl | hy
    · exact h1 x hx
    · exact h3 x hx y hy

/-- all of `l` is below `key` -/
def AllLt (cmp : K → K → Ordering) (key : K) (l : List (K × V)) : Prop := ∀ x ∈ l, cmp key x.1 = .gt
/-- all of `l` is above `key` -/
def AllGt (cmp : K → K → Ordering) (key : K) (l : List (K × V)) : Prop := ∀ x ∈ l, cmp key x.1 = .lt

theorem AllLt.append {cmp : K → K → Ordering} {key : K} {l m : List (K × V)} :
    AllLt cmp key (l ++ m) ↔ AllLt cmp key l ∧ AllLt cmp key m := List.forall_mem_append

theorem AllGt.append {cmp : K → K → Ordering} {key : K} {l m : List (K × V)} :
    AllGt cmp key (l ++ m) ↔ AllGt cmp key l ∧ AllGt cmp key m := List.forall_mem_append

theorem AllLt.cons {cmp : K → K → Ordering} {key : K} {x : K × V} {l : List (K × V)} :
    AllLt cmp key (x :: l) ↔ cmp key x.1 = .gt ∧ AllLt cmp key l := List.forall_mem_cons

theorem AllGt.cons {cmp : K → K → Ordering} {key : K} {x : K × V} {l : List (K × V)} :
    AllGt cmp key (x :: l) ↔ cmp key x.1 = .lt ∧ AllGt cmp key l := List.forall_mem_cons

theorem allGt_of_ne_gt {cmp : K → K → Ordering} (h : LawfulCmp cmp) {key k : K} (hk : cmp key k ≠ .gt)
    {l : List (K × V)} (hl : ∀ y ∈ l, cmp k y.1 = .lt) : AllGt cmp key l := by
  intro y hy
  cases hc : cmp key k with
  | lt => exact h.lt_trans hc (hl y hy)
  | eq => exact h.eq_lt hc (hl y hy)
  | gt => exact absurd hc hk

theorem allLt_of_ne_lt {cmp : K → K → Ordering} (h : LawfulCmp cmp) {key k : K} (hk : cmp key k ≠ .lt)
    {l : List (K × V)} (hl : ∀ x ∈ l, cmp x.1 k = .lt) : AllLt cmp key l := by
  intro x hx
  rw [h.gt_iff]
  cases hc : cmp k key with
  | lt => exact h.lt_trans (hl x hx) hc
  | eq => exact h.lt_eq (hl x hx) hc
  | gt => exact absurd ((h.gt_iff ..).1 hc) hk

theorem allGt_of_lt {cmp : K → K → Ordering} (h : LawfulCmp cmp) {key k : K} (hk : cmp key k = .lt)
    {l : List (K × V)} (hl : ∀ y ∈ l, cmp k y.1 = .lt) : AllGt cmp key l :=
  fun y hy => h.lt_trans hk (hl y hy)

theorem allLt_of_gt {cmp : K → K → Ordering} (h : LawfulCmp cmp) {key k : K} (hk : cmp key k = .gt)
    {l : List (K × V)} (hl : ∀ x ∈ l, cmp x.1 k = .lt) : AllLt cmp key l :=
  allLt_of_ne_lt h (hk ▸ nofun) hl

theorem allLt_of_getLast? {cmp : K → K → Ordering} (h : LawfulCmp cmp) {key : K} {l : List (K × V)}
    (hs : SortedKV cmp l) (hl : ∀ x ∈ l.getLast?, cmp key x.1 = .gt) : AllLt cmp key l := by
  obtain rfl | ⟨xs, x, rfl⟩ := l.eq_nil_or_concat
  · exact nofun
  · rw [List.concat_eq_append] at hs hl ⊢
    have hk : cmp key x.1 = .gt := hl x List.getLast?_concat
    exact AllLt.append.2 ⟨allLt_of_gt h hk fun y hy => (List.pairwise_append.1 hs).2.2 y hy x (List.mem_singleton_self x),
      AllLt.cons.2 ⟨hk, nofun⟩⟩

theorem allGt_of_head? {cmp : K → K → Ordering} (h : LawfulCmp cmp) {key : K} {l : List (K × V)}
    (hs : SortedKV cmp l) (hl : ∀ x ∈ l.head?, cmp key x.1 = .lt) : AllGt cmp key l := by
  match l with
  | [] => exact nofun
  | x :: xs =>
    have hk : cmp key x.1 = .lt := hl x rfl
    exact AllGt.cons.2 ⟨hk, allGt_of_lt h hk (List.pairwise_cons.1 hs).1⟩

end Tree
end Gbo
