import Gbo.Proofs.FillFold
import Gbo.Proofs.EvMap
/-
  `fill_queue` under the four operations: the operation decides only the contour ids and exterior flags of the
  clipping polygons' events (`Difference`).  `stripRole` forgets those two fields; the event order never reads
  them, so filling and then forgetting is filling without roles, whatever the operation: the arena (stripped), the
  heap array and the boxes are the same for all four.
-/
namespace Gbo

/-- forget the two fields `fill_queue` sets differently under `Difference` -/
def stripRole (e : Ev) : Ev := { e with contourId := 0, isExteriorRing := false }

theorem stripRole_default : stripRole default = default := rfl

theorem viewMap_stripRole : ViewMap id stripRole :=
  ⟨id_orderPreserving, stripRole_default, fun _ => rfl, fun _ => rfl, fun _ => rfl, fun _ => rfl⟩

theorem evLe_of_strip_eq {a a' : Arena} (h : a.map stripRole = a'.map stripRole) : evLe a = evLe a' :=
  apply_of_map_eq evLe viewMap_stripRole.evLe_eq h

def stripSt (st : FQ × Option BBox) : FQ × Option BBox := ({ st.1 with arena := st.1.arena.map stripRole }, st.2)

theorem processLine_strip (subj : Bool) (c : Nat) (x : Bool) (st : FQ × Option BBox) (s e : Pt) :
    processLine subj 0 false (stripSt st) s e = stripSt (processLine subj c x st s e) := by
  rw [processLine_eq, processLine_eq]
  split
  · rfl
  · have hm : ((st.1.arena.map stripRole).push (mkPair st.1.arena.size s e subj 0 false).1).push
        (mkPair st.1.arena.size s e subj 0 false).2 =
        ((st.1.arena.push (mkPair st.1.arena.size s e subj c x).1).push (mkPair st.1.arena.size s e subj c x).2).map stripRole := by
      simp only [Array.map_push]
      rfl
    simp only [stripSt, Array.size_map, hm, viewMap_stripRole.evLe_eq]

theorem processRing_strip (subj : Bool) (c : Nat) (x : Bool) (r : Ring) (st : FQ × Option BBox) :
    processRing subj 0 false (stripSt st) r = stripSt (processRing subj c x st r) := by
  rw [processRing_eq, processRing_eq]
  exact List.foldl_hom stripSt fun st se => processLine_strip subj c x st se.1 se.2

theorem processPolygon_strip (subj : Bool) (c : Nat) (x : Bool) (p : Poly) (st : FQ × Option BBox) :
    processPolygon subj 0 false (stripSt st) p = stripSt (processPolygon subj c x st p) := by
  unfold processPolygon
  rw [processRing_strip]
  exact List.foldl_hom stripSt fun st r => processRing_strip subj c false r st

theorem clipFold_strip (op : Op) (l : List Poly) (acc : Nat × FQ × Option BBox) :
    l.foldl (processPolygon false 0 false) (stripSt acc.2) = stripSt (l.foldl (clipStep op) acc).2 :=
  List.foldl_hom (fun acc : Nat × FQ × Option BBox => stripSt acc.2) (g₁ := clipStep op)
    fun acc p => processPolygon_strip false _ _ p acc.2

end Gbo
