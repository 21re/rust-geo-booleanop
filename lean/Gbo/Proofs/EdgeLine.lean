import Mathlib.Tactic.Ring
import Gbo.Spec.Region
import Gbo.Proofs.MinMax
/-
  A non-vertical edge read through its line `yAt e ·`: which side of the edge a point is on, when the crossing
  rule counts the edge, and how the ordinates of two lines compare between two abscissas.
-/
namespace Gbo.Spec
open Gbo

theorem rmin_def' (a b : Rat) : rmin a b = if a ≤ b then a else b := rfl
theorem rmax_def' (a b : Rat) : rmax a b = if a ≤ b then b else a := rfl

theorem orient_eq_yAt (e : Seg) (q : Pt) (h : e.1.x ≠ e.2.x) :
    orient e.1 e.2 q = (e.2.x - e.1.x) * (q.y - yAt e q.x) := by
  unfold orient yAt
  rw [mul_sub _ q.y, mul_add, mul_div_cancel₀ _ (sub_ne_zero.2 h.symm)]
  ring

theorem orient_eq_yAt' (e : Seg) (q : Pt) (h : e.1.x ≠ e.2.x) :
    orient e.2 e.1 q = (e.1.x - e.2.x) * (q.y - yAt e q.x) := by
  rw [← neg_sub e.2.x, neg_mul, ← orient_eq_yAt e q h]; unfold orient; ring

/-- the crossing rule in terms of the edge's line (the half-open x-extent of a vertical edge is empty, so what
    `yAt` is there does not matter) -/
theorem edgeBelow_eq (q : Pt) (e : Seg) :
    edgeBelow q e = (decide (segMinX e ≤ q.x) && decide (q.x < segMaxX e) && decide (yAt e q.x < q.y)) := by
  unfold edgeBelow segMinX segMaxX
  rw [rmin_def', rmax_def', Bool.eq_iff_iff]
  by_cases hx : e.1.x ≤ e.2.x
  · simp only [hx, if_true, Bool.and_eq_true, decide_eq_true_eq]
    refine and_congr_right fun hr => ?_
    have hlt : e.1.x < e.2.x := lt_of_le_of_lt hr.1 hr.2
    rw [orient_eq_yAt e q hlt.ne, gt_iff_lt, mul_pos_iff_of_pos_left (sub_pos.2 hlt), sub_pos]
  · simp only [hx, if_false, Bool.and_eq_true, decide_eq_true_eq]
    refine and_congr_right fun hr => ?_
    have hlt : e.2.x < e.1.x := lt_of_le_of_lt hr.1 hr.2
    rw [orient_eq_yAt' e q hlt.ne', gt_iff_lt, mul_pos_iff_of_pos_left (sub_pos.2 hlt), sub_pos]

theorem edgeBelow_iff (q : Pt) (e : Seg) :
    edgeBelow q e = true ↔ (segMinX e ≤ q.x ∧ q.x < segMaxX e) ∧ yAt e q.x < q.y := by
  simp only [edgeBelow_eq, Bool.and_eq_true, decide_eq_true_eq]

theorem nonvertical_of_extent {e : Seg} {x : Rat} (hl : segMinX e ≤ x) (hr : x < segMaxX e) : e.1.x ≠ e.2.x := by
  intro hv
  have : segMinX e < segMaxX e := lt_of_le_of_lt hl hr
  unfold segMinX segMaxX at this
  rw [hv, rmin_of_le le_rfl, rmax_of_le le_rfl] at this
  exact lt_irrefl _ this

theorem yAt_between {e : Seg} {x : Rat} (h : e.1.x ≠ e.2.x) (h0 : segMinX e ≤ x) (h1 : x ≤ segMaxX e) :
    rmin e.1.y e.2.y ≤ yAt e x ∧ yAt e x ≤ rmax e.1.y e.2.y := by
  obtain ⟨t0, t1⟩ := param_mem h h0 h1
  have : yAt e x = e.1.y + (x - e.1.x) / (e.2.x - e.1.x) * (e.2.y - e.1.y) := by unfold yAt; ring
  rw [this]
  exact between_of_param _ _ _ t0 t1

/-- `yAt e ·` is affine (for a vertical `e` it is constant, division by zero being zero) -/
theorem yAt_affine (e : Seg) (x0 x1 x : Rat) :
    yAt e x * (x1 - x0) = yAt e x0 * (x1 - x) + yAt e x1 * (x - x0) := by
  unfold yAt; ring

theorem yAt_le_inside {a b : Seg} {x0 x1 x : Rat} (h01 : x0 < x1) (hx0 : x0 ≤ x) (hx1 : x ≤ x1)
    (h0 : yAt a x0 ≤ yAt b x0) (h1 : yAt a x1 ≤ yAt b x1) : yAt a x ≤ yAt b x := by
  refine le_of_mul_le_mul_right ?_ (sub_pos.2 h01)
  rw [yAt_affine a x0 x1 x, yAt_affine b x0 x1 x]
  exact add_le_add (mul_le_mul_of_nonneg_right h0 (sub_nonneg.2 hx1)) (mul_le_mul_of_nonneg_right h1 (sub_nonneg.2 hx0))

theorem yAt_mid_lt {a b : Seg} {x0 x1 x : Rat} (h01 : x0 < x1) (h0 : yAt a x0 ≤ yAt b x0) (h1 : yAt a x1 ≤ yAt b x1)
    (hx : yAt a x < yAt b x) : yAt a ((x0 + x1) / 2) < yAt b ((x0 + x1) / 2) := by
  -- at the middle a line is at the mean of its end values; were the middle values in the other order, the end
  -- values would be equal and the two lines would agree at `x`
  have mid : ∀ e : Seg, yAt e x0 + yAt e x1 = 2 * yAt e ((x0 + x1) / 2) := fun e => by unfold yAt; ring
  by_contra hle
  have hs : yAt b x0 + yAt b x1 ≤ yAt a x0 + yAt a x1 := by
    rw [mid, mid]; exact mul_le_mul_of_nonneg_left (not_lt.1 hle) zero_le_two
  refine hx.ne (mul_right_cancel₀ (sub_pos.2 h01).ne' ?_)
  rw [yAt_affine a x0 x1 x, yAt_affine b x0 x1 x,
    le_antisymm h0 (le_of_add_le_add_right (hs.trans (add_le_add_right h1 _))),
    le_antisymm h1 (le_of_add_le_add_left (hs.trans (add_le_add_left h0 _)))]

end Gbo.Spec
