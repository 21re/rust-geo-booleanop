import Mathlib.Tactic.Linarith
import Mathlib.Tactic.Ring
import Gbo.Model.Event
import Gbo.Proofs.MinMax
/-
  The event order (`impl Ord for SweepEvent`) and the segment order (`compare_segments`) over exact
  rational coordinates.  Every finite f32/f64 is a rational and the Rust code only compares coordinates
  and takes the exact sign of `orient2d`, so these theorems speak about what the code computes for every
  float input.

  The event order is read in layers: off a common point it is the order of the points; at a common point right
  events come first; among left events it is the counter-clockwise order of the other endpoints with ties broken
  by the operand, and among right events the same after a point reflection.  Antisymmetry and transitivity on the
  events of a valid input are put together from these layers.
-/
namespace Gbo

theorem orient_swap23 (p a b : Pt) : orient p a b = - orient p b a := by unfold orient; ring
theorem orient_swap12 (p a b : Pt) : orient a p b = - orient p a b := by unfold orient; ring
theorem orient_cycle (p a b : Pt) : orient a b p = orient p a b := by unfold orient; ring

/-- sweep order of points -/
def ptLt (p q : Pt) : Prop := p.x < q.x ∨ (p.x = q.x ∧ p.y < q.y)

/-- `ptLt p o` under the name the statements about angles use: the vector from `p` to `o` points into the half-plane
    of points after `p`.  Same body, so a hypothesis `After p o` is passed where `ptLt p o` is asked for. -/
def After (p o : Pt) : Prop := p.x < o.x ∨ (p.x = o.x ∧ p.y < o.y)

theorem ptLt_trichotomy (p q : Pt) : ptLt p q ∨ p = q ∨ ptLt q p := by
  rcases lt_trichotomy p.x q.x with h | h | h
  · exact .inl (.inl h)
  · rcases lt_trichotomy p.y q.y with h' | h' | h'
    · exact .inl (.inr ⟨h, h'⟩)
    · exact .inr (.inl (Pt.ext h h'))
    · exact .inr (.inr (.inr ⟨h.symm, h'⟩))
  · exact .inr (.inr (.inl h))

theorem ptLt_trans {p q r : Pt} (h1 : ptLt p q) (h2 : ptLt q r) : ptLt p r := by
  rcases h1 with h1 | ⟨h1, h1'⟩ <;> rcases h2 with h2 | ⟨h2, h2'⟩
  · exact Or.inl (h1.trans h2)
  · exact Or.inl (h2 ▸ h1)
  · exact Or.inl (h1 ▸ h2)
  · exact Or.inr ⟨h1.trans h2, h1'.trans h2'⟩

theorem ptLt_irrefl (p : Pt) : ¬ ptLt p p := fun h => h.elim (lt_irrefl _) fun h => lt_irrefl _ h.2

theorem ptLt_asymm {p q : Pt} (h : ptLt p q) : ¬ ptLt q p := fun h' => ptLt_irrefl p (ptLt_trans h h')

theorem lessIf_ne_eq (c : Bool) : lessIf c ≠ .eq := by cases c <;> simp [lessIf]

theorem cmpView_of_ptLt {e1 e2 : EvView} (h : ptLt e1.point e2.point) : cmpView e1 e2 = .gt := by
  rcases h with h | ⟨hx, hy⟩
  · exact (if_neg h.not_gt).trans (if_pos h)
  · exact (if_neg (hx ▸ lt_irrefl _)).trans ((if_neg (hx ▸ lt_irrefl _)).trans ((if_neg hy.not_gt).trans (if_pos hy)))

theorem cmpView_of_ptGt {e1 e2 : EvView} (h : ptLt e2.point e1.point) : cmpView e1 e2 = .lt := by
  rcases h with h | ⟨hx, hy⟩
  · exact if_pos h
  · exact (if_neg (hx ▸ lt_irrefl _)).trans ((if_neg (hx ▸ lt_irrefl _)).trans (if_pos hy))

theorem cmpView_ne_eq (e1 e2 : EvView) : cmpView e1 e2 ≠ .eq := by
  -- every branch returns `.lt`, `.gt` or a `lessIf _`
  fun_cases cmpView e1 e2 <;> simp only [ne_eq, lessIf_ne_eq, reduceCtorEq, not_false_eq_true]

theorem cmpView_gt_imp_le {e1 e2 : EvView} (h : cmpView e1 e2 = .gt) : ptLt e1.point e2.point ∨ e1.point = e2.point :=
  (ptLt_trichotomy e1.point e2.point).imp_right fun h' => h'.resolve_right fun h' => by
    rw [cmpView_of_ptGt h'] at h; cases h

theorem cmpView_right_left (p : Pt) (a b : Option Pt) (sa sb : Bool) :
    cmpView ⟨p, false, a, sa⟩ ⟨p, true, b, sb⟩ = .gt := by
  simp [cmpView, lessIf]

theorem cmpView_left_right (p : Pt) (a b : Option Pt) (sa sb : Bool) :
    cmpView ⟨p, true, a, sa⟩ ⟨p, false, b, sb⟩ = .lt := by
  simp [cmpView, lessIf]

theorem cmpView_self (e : EvView) : cmpView e e = .gt := by
  obtain ⟨p, l, o, s⟩ := e
  cases o <;> simp [cmpView, lessIf, orient]

/-- what "events of a valid input" means for two events meeting at one point: when they have the same
    kind and their segments are collinear from that point, they belong to different operands -/
def PairOk (e1 e2 : EvView) : Prop :=
  e1.point = e2.point → e1.left = e2.left →
    ∀ o1 o2, e1.otherPt = some o1 → e2.otherPt = some o2 → orient e1.point o1 o2 = 0 → e1.isSubject ≠ e2.isSubject

def swapOrd : Ordering → Ordering
  | .lt => .gt | .gt => .lt | .eq => .eq

namespace Props

/-- an event of a valid input is linked to its other endpoint, which lies after it in sweep order for a
    left event and before it for a right event -/
def Linked (e : EvView) (o : Pt) : Prop :=
  e.otherPt = some o ∧ (if e.left then After e.point o else After o e.point)

end Props

theorem orient_of_x_eq {p a : Pt} (b : Pt) (h : p.x = a.x) : orient p a b = (p.x - b.x) * (a.y - p.y) := by
  unfold orient; rw [← h]; ring

/-- a point after `p` lies strictly on the positive side of every steep enough line `x * M + y = 0` through `p`
    (the ray straight up from `p` is on the positive side of them all) -/
theorem exists_side {p a : Pt} (h : ptLt p a) : ∃ M0 : Rat, ∀ M, M0 ≤ M → 0 < (a.x - p.x) * M + (a.y - p.y) := by
  rcases h with h | ⟨hx, hy⟩
  · exact ⟨(1 - (a.y - p.y)) / (a.x - p.x), fun M hM =>
      zero_lt_one.trans_le (sub_le_iff_le_add.1 ((div_le_iff₀' (sub_pos.2 h)).1 hM))⟩
  · exact ⟨0, fun M _ => by rw [hx, sub_self, zero_mul, zero_add]; exact sub_pos.2 hy⟩

/-- three points after `p` lie strictly on one side of a line through `p`; its linear form applied to the identity
    (u×w) v = (u×v) w + (v×w) u puts positive numbers in place of the vectors.  That "counter-clockwise of" is
    transitive among such points, and that collinear ones are interchangeable, is read off the signs. -/
theorem orient_combine {p a b c : Pt} (ha : ptLt p a) (hb : ptLt p b) (hc : ptLt p c) :
    ∃ k l m : Rat, 0 < k ∧ 0 < l ∧ 0 < m ∧ orient p a c * l = orient p a b * m + orient p b c * k := by
  obtain ⟨Ma, ha⟩ := exists_side ha
  obtain ⟨Mb, hb⟩ := exists_side hb
  obtain ⟨Mc, hc⟩ := exists_side hc
  refine ⟨_, _, _, ha (max Ma (max Mb Mc)) (le_max_left _ _),
    hb (max Ma (max Mb Mc)) ((le_max_left _ _).trans (le_max_right _ _)),
    hc (max Ma (max Mb Mc)) ((le_max_right _ _).trans (le_max_right _ _)), ?_⟩
  unfold orient
  ring

theorem orient_trans_after {p a b c : Pt} (ha : ptLt p a) (hb : ptLt p b) (hc : ptLt p c)
    (hab : orient p a b > 0) (hbc : orient p b c > 0) : orient p a c > 0 := by
  obtain ⟨k, l, m, hk, hl, hm, h⟩ := orient_combine ha hb hc
  exact (mul_pos_iff_of_pos_right hl).1 (h ▸ add_pos (mul_pos hab hm) (mul_pos hbc hk))

/-- "is processed before" among left events at one point `p`, in terms of the other endpoints and the operands -/
def leftBefore (p : Pt) (a : Pt) (sa : Bool) (b : Pt) (sb : Bool) : Prop :=
  orient p a b > 0 ∨ (orient p a b = 0 ∧ (sa = true ∨ sb = false))

theorem cmpView_left_iff (p a b : Pt) (sa sb : Bool) :
    cmpView { point := p, left := true, otherPt := some a, isSubject := sa }
            { point := p, left := true, otherPt := some b, isSubject := sb } = .gt ↔ leftBefore p a sa b sb := by
  unfold cmpView leftBefore
  -- at one point and between two left events `cmpView` comes down to its last test:
  -- `if orient p a b ≠ 0 then lessIf (!(orient p a b > 0)) else lessIf (!sa && sb)`, with `lessIf c = .gt ↔ c = false`
  simp only [gt_iff_lt, lt_self_iff_false, if_false, bne_self_eq_false, Bool.false_eq_true, EvView.isBelow, lessIf, if_true]
  by_cases hz : orient p a b = 0
  · -- a tie: `!sa && sb = false` is `sa = true ∨ sb = false`
    simp only [hz, ne_eq, not_true_eq_false, if_false, lt_self_iff_false, false_or, true_and]
    cases sa <;> cases sb <;> simp
  · simp only [ne_eq, hz, not_false_eq_true, if_true, false_and, or_false]
    by_cases h : 0 < orient p a b <;> simp [h]

theorem leftBefore_trans {p a b c : Pt} {sa sb sc : Bool} (ha : ptLt p a) (hb : ptLt p b) (hc : ptLt p c)
    (okab : orient p a b = 0 → sa ≠ sb) (okbc : orient p b c = 0 → sb ≠ sc)
    (h1 : leftBefore p a sa b sb) (h2 : leftBefore p b sb c sc) : leftBefore p a sa c sc := by
  obtain ⟨k, l, m, hk, hl, hm, h⟩ := orient_combine ha hb hc
  rcases h1 with h1 | ⟨h1, t1⟩ <;> rcases h2 with h2 | ⟨h2, t2⟩
  · exact Or.inl (orient_trans_after ha hb hc h1 h2)
  · rw [h2, zero_mul, add_zero] at h
    exact Or.inl ((mul_pos_iff_of_pos_right hl).1 (h ▸ mul_pos h1 hm))
  · rw [h1, zero_mul, zero_add] at h
    exact Or.inl ((mul_pos_iff_of_pos_right hl).1 (h ▸ mul_pos h2 hk))
  · -- all three on one ray does not occur: with `sa ≠ sb` the first tie-break says `sb = false`, with `sb ≠ sc` the
    -- second says `sb = true`
    have key : ∀ sa sb sc : Bool, sa ≠ sb → sb ≠ sc → sa = true ∨ sb = false → sb = true ∨ sc = false → False := by decide
    exact (key sa sb sc (okab h1) (okbc h2) t1 t2).elim

def reflect (p a : Pt) : Pt := { x := 2 * p.x - a.x, y := 2 * p.y - a.y }

theorem ptLt_reflect {p a : Pt} (h : ptLt a p) : ptLt p (reflect p a) :=
  have lt : ∀ {u v : Rat}, v < u → u < 2 * u - v := fun h => by linarith
  h.imp lt fun h => ⟨by rw [reflect, h.1, two_mul, add_sub_cancel_right], lt h.2⟩

theorem orient_reflect (p a b : Pt) : orient p (reflect p a) (reflect p b) = orient p a b := by
  unfold orient reflect; ring

/-- every fact about right events at `p` is one about left events: reflect the other endpoints through `p`, exchange
    the two events and negate the operand flags -/
theorem cmpView_right_eq_left (p a b : Pt) (sa sb : Bool) :
    cmpView { point := p, left := false, otherPt := some a, isSubject := sa }
            { point := p, left := false, otherPt := some b, isSubject := sb }
      = cmpView { point := p, left := true, otherPt := some (reflect p b), isSubject := !sb }
                { point := p, left := true, otherPt := some (reflect p a), isSubject := !sa } := by
  unfold cmpView
  simp only [gt_iff_lt, lt_self_iff_false, if_false, bne_self_eq_false, Bool.false_eq_true, EvView.isBelow, if_true,
    orient_reflect, Bool.not_not]
  have e : orient a p b = orient p b a := (orient_cycle b a p).trans (orient_cycle p b a)
  simp only [e, orient_swap23 p a b, neg_ne_zero, Bool.and_comm]

theorem ok_reflect {p a b : Pt} {sa sb : Bool} (ok : orient p a b = 0 → sa ≠ sb) :
    orient p (reflect p b) (reflect p a) = 0 → (!sb) ≠ (!sa) := fun hz h =>
  ok (by rwa [orient_reflect, orient_swap23, neg_eq_zero] at hz) (Bool.not_inj h).symm

theorem leftBefore_antisymm {p a b : Pt} {sa sb : Bool} (ok : orient p a b = 0 → sa ≠ sb) :
    leftBefore p b sb a sa ↔ ¬ leftBefore p a sa b sb := by
  unfold leftBefore
  rw [orient_swap23 p b a]
  rcases lt_trichotomy (orient p a b) 0 with h | h | h
  · exact iff_of_true (.inl (neg_pos.2 h)) (not_or.2 ⟨h.not_gt, fun h' => h.ne h'.1⟩)
  · -- a tie: of two different operands exactly one is the subject
    have key : ∀ sa sb : Bool, sa ≠ sb → ((sb = true ∨ sa = false) ↔ ¬ (sa = true ∨ sb = false)) := by decide
    rw [h, neg_zero]
    simpa only [gt_iff_lt, lt_irrefl, false_or, true_and] using key sa sb (ok h)
  · exact iff_of_false (not_or.2 ⟨(neg_neg_of_pos h).not_gt, fun h' => neg_ne_zero.2 h.ne' h'.1⟩) (not_not_intro (.inl h))

theorem swapOrd_of_gt_iff {x y : Ordering} (hx : x ≠ .eq) (hy : y ≠ .eq) (h : y = .gt ↔ ¬ x = .gt) : y = swapOrd x := by
  cases x <;> cases y <;> simp_all [swapOrd]

theorem cmpView_left_antisymm {p a b : Pt} {sa sb : Bool} (ok : orient p a b = 0 → sa ≠ sb) :
    cmpView { point := p, left := true, otherPt := some b, isSubject := sb }
            { point := p, left := true, otherPt := some a, isSubject := sa }
      = swapOrd (cmpView { point := p, left := true, otherPt := some a, isSubject := sa }
                         { point := p, left := true, otherPt := some b, isSubject := sb }) := by
  refine swapOrd_of_gt_iff (cmpView_ne_eq _ _) (cmpView_ne_eq _ _) ?_
  rw [cmpView_left_iff, cmpView_left_iff]
  exact leftBefore_antisymm ok

theorem cmpView_antisymm {e1 e2 : EvView} {o1 o2 : Pt} (h1 : e1.otherPt = some o1) (h2 : e2.otherPt = some o2)
    (hok : PairOk e1 e2) : cmpView e2 e1 = swapOrd (cmpView e1 e2) := by
  rcases ptLt_trichotomy e1.point e2.point with h | h | h
  · rw [cmpView_of_ptLt h, cmpView_of_ptGt h]; rfl
  · obtain ⟨p, l1, _, s1⟩ := e1
    obtain ⟨_, l2, _, s2⟩ := e2
    subst h h1 h2
    have ok := hok rfl
    cases l1 <;> cases l2
    · rw [cmpView_right_eq_left, cmpView_right_eq_left]
      exact cmpView_left_antisymm (ok_reflect (ok rfl o1 o2 rfl rfl))
    · rw [cmpView_right_left, cmpView_left_right]; rfl
    · rw [cmpView_right_left, cmpView_left_right]; rfl
    · exact cmpView_left_antisymm (ok rfl o1 o2 rfl rfl)
  · rw [cmpView_of_ptGt h, cmpView_of_ptLt h]; rfl

theorem cmpView_trans {e1 e2 e3 : EvView} {o1 o2 o3 : Pt}
    (k1 : Props.Linked e1 o1) (k2 : Props.Linked e2 o2) (k3 : Props.Linked e3 o3)
    (ok12 : PairOk e1 e2) (ok23 : PairOk e2 e3)
    (h12 : cmpView e1 e2 = .gt) (h23 : cmpView e2 e3 = .gt) : cmpView e1 e3 = .gt := by
  rcases cmpView_gt_imp_le h12 with h | h
  · exact cmpView_of_ptLt ((cmpView_gt_imp_le h23).elim (ptLt_trans h) (· ▸ h))
  rcases cmpView_gt_imp_le h23 with h' | h'
  · exact cmpView_of_ptLt (h ▸ h')
  -- all three at one point
  obtain ⟨p, l1, _, s1⟩ := e1
  obtain ⟨_, l2, _, s2⟩ := e2
  obtain ⟨_, l3, _, s3⟩ := e3
  obtain ⟨q1, a1⟩ := k1
  obtain ⟨q2, a2⟩ := k2
  obtain ⟨q3, a3⟩ := k3
  simp only at h h' q1 q2 q3 a1 a2 a3
  subst h h' q1 q2 q3
  cases l1 <;> cases l2 <;> cases l3
  · -- three right events
    rw [cmpView_right_eq_left, cmpView_left_iff] at h12 h23 ⊢
    exact leftBefore_trans (ptLt_reflect a3) (ptLt_reflect a2) (ptLt_reflect a1)
      (ok_reflect (ok23 rfl rfl o2 o3 rfl rfl)) (ok_reflect (ok12 rfl rfl o1 o2 rfl rfl)) h23 h12
  · exact cmpView_right_left ..
  · rw [cmpView_left_right] at h23; cases h23
  · exact cmpView_right_left ..
  · rw [cmpView_left_right] at h12; cases h12
  · rw [cmpView_left_right] at h12; cases h12
  · rw [cmpView_left_right] at h23; cases h23
  · -- three left events
    rw [cmpView_left_iff] at h12 h23 ⊢
    exact leftBefore_trans a1 a2 a3 (ok12 rfl rfl o1 o2 rfl rfl) (ok23 rfl rfl o2 o3 rfl rfl) h12 h23

def CmpSegOut.map (f : Ordering → Ordering) : CmpSegOut → CmpSegOut
  | .ord o => .ord (f o)
  | x => x

theorem lessIfInv_eq (c : Bool) : lessIfInv c = swapOrd (lessIf c) := by cases c <;> rfl

theorem lessIfInv_ne_eq (c : Bool) : lessIfInv c ≠ .eq := by cases c <;> simp [lessIfInv]

/-- `compareSegCore` only ever applies `lessIf'` to the decision it has reached, so it commutes with anything done
    to the answer afterwards -/
theorem compareSegCore_comp (ar : Arith) (dbg : Bool) (f : Ordering → Ordering) (li : Bool → Ordering)
    (old new : SegView) :
    compareSegCore ar dbg (fun c => f (li c)) old new = (compareSegCore ar dbg li old new).map f := by
  unfold compareSegCore
  split
  · -- `map f` goes through the tests down to the intersection, then through each of its outcomes, to the leaves
    simp only [apply_ite (CmpSegOut.map f)]
    cases ar.isect _ _ _ _
    · rfl
    · simp only [apply_ite (CmpSegOut.map f)]; rfl
    · simp only [apply_ite (CmpSegOut.map f)]; rfl
    · rfl
  · simp only [apply_ite (CmpSegOut.map f)]; rfl

theorem compareSegCore_lessIfInv (ar : Arith) (old new : SegView) :
    compareSegCore ar false lessIfInv old new = (compareSegCore ar false lessIf old new).map swapOrd :=
  (funext lessIfInv_eq : lessIfInv = _) ▸ compareSegCore_comp ar false swapOrd lessIf old new

theorem compareSegCore_ne_eq {ar : Arith} {lf : Bool → Ordering} (hlf : ∀ c, lf c ≠ .eq) {old new : SegView} :
    compareSegCore ar false lf old new ≠ .ord .eq := by
  -- `lf` is `lessIf` followed by reading the answer back
  have h : (fun c => lf (lessIf c == .lt)) = lf := funext fun c => by cases c <;> rfl
  rw [← h, compareSegCore_comp ar false (fun o => lf (o == .lt)) lessIf]
  cases compareSegCore ar false lessIf old new <;> simp [CmpSegOut.map, hlf]

end Gbo
