import Gbo.Proofs.FillQueue
/-
  What `fill_queue` stores, as a list of segments, and why that list (as a multiset) does not depend on
  where a ring starts or in which direction it is written.
-/
namespace Gbo

/-- a queued segment: sweep-earlier endpoint first -/
structure SegRec where
  l : Pt
  r : Pt
  subj : Bool
  cid : Nat
  ext : Bool
deriving DecidableEq, Repr

def pairSeg (e1 e2 : Ev) : SegRec :=
  if e1.left then ⟨e1.point, e2.point, e1.isSubject, e1.contourId, e1.isExteriorRing⟩
  else ⟨e2.point, e1.point, e1.isSubject, e1.contourId, e1.isExteriorRing⟩

/-- the segments of an arena filled by `fill_queue` (pairs at positions 2k, 2k+1) -/
def arenaSegs (a : Arena) : List SegRec :=
  (List.range (a.size / 2)).map (fun k => pairSeg a[2 * k]! a[2 * k + 1]!)

/-- the segment `process_polygon` queues for the line `s -> e` -/
def lineSeg (subj : Bool) (cid : Nat) (ext : Bool) (se : Pt × Pt) : SegRec :=
  pairSeg (mkPair 0 se.1 se.2 subj cid ext).1 (mkPair 0 se.1 se.2 subj cid ext).2

theorem pairSeg_mkPair (n : Nat) (s e : Pt) (subj : Bool) (cid : Nat) (ext : Bool) :
    pairSeg (mkPair n s e subj cid ext).1 (mkPair n s e subj cid ext).2 = lineSeg subj cid ext (s, e) := rfl

theorem arenaSegs_push2 {a : Arena} {e1 e2 : Ev} (h : a.size % 2 = 0) :
    arenaSegs ((a.push e1).push e2) = arenaSegs a ++ [pairSeg e1 e2] := by
  have hsz : ((a.push e1).push e2).size / 2 = a.size / 2 + 1 := by
    rw [Array.size_push, Array.size_push]
    exact Nat.add_div_right _ (Nat.zero_lt_succ 1)
  unfold arenaSegs
  rw [hsz, List.range_succ, List.map_append, List.map_singleton, Nat.mul_div_cancel' (Nat.dvd_of_mod_eq_zero h),
    get!_push2_fst, get!_push2_snd]
  refine congrArg (· ++ _) (List.map_congr_left fun k hk => ?_)
  obtain ⟨h1, h2⟩ := pair_slots_lt (List.mem_range.mp hk)
  rw [get!_push2_lt h1, get!_push2_lt h2]

theorem processLine_segs (subj : Bool) (cid : Nat) (ext : Bool) (st : FQ × Option BBox) {s e : Pt} (hne : s ≠ e)
    (h : st.1.arena.size % 2 = 0) :
    arenaSegs (processLine subj cid ext st s e).1.arena = arenaSegs st.1.arena ++ [lineSeg subj cid ext (s, e)] ∧
    (processLine subj cid ext st s e).1.arena.size % 2 = 0 := by
  rw [(processLine_ne subj cid ext st hne).1, arenaSegs_push2 h, pairSeg_mkPair, Array.size_push, Array.size_push]
  exact ⟨rfl, (Nat.add_mod_right _ 2).trans h⟩

theorem processRing_segs (subj : Bool) (cid : Nat) (ext : Bool) (ring : Ring) (st : FQ × Option BBox)
    (h : st.1.arena.size % 2 = 0) :
    arenaSegs (processRing subj cid ext st ring).1.arena =
      arenaSegs st.1.arena ++ (ringLines ring).map (lineSeg subj cid ext) := by
  rw [processRing_eq]
  refine (foldl_prefix (J := fun (r : FQ × Option BBox) done =>
    arenaSegs r.1.arena = arenaSegs st.1.arena ++ done.map (lineSeg subj cid ext) ∧ r.1.arena.size % 2 = 0)
    _ st ⟨(List.append_nil _).symm, h⟩ fun r done se hse g => ?_).1
  obtain ⟨h1, h2⟩ := processLine_segs subj cid ext r (ringLines_mem hse).2.2 g.2
  refine ⟨?_, h2⟩
  rw [h1, g.1, List.map_append, List.append_assoc]
  rfl

theorem lineSeg_of_ptLt (subj : Bool) (cid : Nat) (ext : Bool) {s e : Pt} (h : ptLt s e) :
    lineSeg subj cid ext (s, e) = ⟨s, e, subj, cid, ext⟩ ∧ lineSeg subj cid ext (e, s) = ⟨s, e, subj, cid, ext⟩ := by
  have hne : s ≠ e := fun e' => ptLt_irrefl _ (e' ▸ h)
  have h1 := (mkPair_left 0 hne subj cid ext).1.mpr h
  have h2 := Bool.eq_false_iff.mpr fun hl => ptLt_asymm h ((mkPair_left 0 hne.symm subj cid ext).1.mp hl)
  unfold lineSeg pairSeg
  rw [h1, h2]
  exact ⟨rfl, rfl⟩

theorem lineSeg_swap (subj : Bool) (cid : Nat) (ext : Bool) {se : Pt × Pt} (hne : se.1 ≠ se.2) :
    lineSeg subj cid ext se.swap = lineSeg subj cid ext se := by
  rcases ptLt_trichotomy se.1 se.2 with h | h | h
  · exact (lineSeg_of_ptLt subj cid ext h).2.trans (lineSeg_of_ptLt subj cid ext h).1.symm
  · exact absurd h hne
  · exact (lineSeg_of_ptLt subj cid ext h).1.trans (lineSeg_of_ptLt subj cid ext h).2.symm

theorem ringLines_split (a : List Pt) (x : Pt) (b : List Pt) :
    ringLines (a ++ x :: b) = ringLines (a ++ [x]) ++ ringLines (x :: b) := by
  induction a with
  | nil => rfl
  | cons y a ih =>
    cases a with
    | nil =>
      rw [List.singleton_append, List.singleton_append, ringLines_cons_cons, ringLines_cons_cons y x []]
      exact congrArg (· ++ _) (List.append_nil _).symm
    | cons z a =>
      rw [List.cons_append, List.cons_append, List.cons_append, List.cons_append, ringLines_cons_cons,
        ringLines_cons_cons, List.append_assoc]
      exact congrArg _ ih

theorem ringLines_reverse (ring : Ring) : ringLines ring.reverse = (ringLines ring).reverse.map Prod.swap := by
  induction ring with
  | nil => rfl
  | cons p rest ih =>
    cases rest with
    | nil => rfl
    | cons q rest =>
      -- the line from `p` to `q` comes last, turned round
      rw [List.reverse_cons, ringLines_cons_cons, List.reverse_append, List.map_append, ← ih, List.reverse_cons,
        List.append_assoc, List.singleton_append, ringLines_split rest.reverse q [p]]
      refine congrArg (_ ++ ·) ?_
      by_cases hpq : p = q
      · rw [hpq, ringLines_cons_cons, if_pos rfl]
        rfl
      · rw [if_neg hpq, ringLines_cons_cons, if_neg (Ne.symm hpq)]
        rfl

theorem ringSegs_reverse (subj : Bool) (cid : Nat) (ext : Bool) (ring : Ring) :
    (ringLines ring.reverse).map (lineSeg subj cid ext) = ((ringLines ring).map (lineSeg subj cid ext)).reverse := by
  rw [ringLines_reverse, List.map_map, List.map_reverse]
  exact congrArg _ (List.map_congr_left fun se hse => lineSeg_swap subj cid ext (ringLines_mem hse).2.2)

/-- a closed ring `p, l1…, q, l2…, p` may as well start at `q` (`q, l2…, p, l1…, q`): the same lines -/
theorem ringLines_rotate (p q : Pt) (l1 l2 : List Pt) :
    (ringLines (q :: l2 ++ p :: l1 ++ [q])).Perm (ringLines (p :: l1 ++ q :: l2 ++ [p])) := by
  rw [List.append_assoc, List.append_assoc]
  exact (List.Perm.of_eq (ringLines_split (q :: l2) p (l1 ++ [q]))).trans
    (List.perm_append_comm.trans (.of_eq (ringLines_split (p :: l1) q (l2 ++ [p])).symm))

theorem processRing_rotate (subj : Bool) (cid : Nat) (ext : Bool) (p q : Pt) (l1 l2 : List Pt)
    (st : FQ × Option BBox) (h : st.1.arena.size % 2 = 0) :
    (arenaSegs (processRing subj cid ext st (q :: l2 ++ p :: l1 ++ [q])).1.arena).Perm
      (arenaSegs (processRing subj cid ext st (p :: l1 ++ q :: l2 ++ [p])).1.arena) := by
  rw [processRing_segs subj cid ext _ st h, processRing_segs subj cid ext _ st h]
  exact ((ringLines_rotate p q l1 l2).map _).append_left _

end Gbo
