import Gbo.Proofs.Bubble
import Gbo.Proofs.ContourLoop
import Gbo.Proofs.Orders
/-
  C03 — every call on valid input returns.  Clauses that carry theorems: the loops whose termination
  depends on the consistency of the event order.  (The main sweep loop has no termination proof: the known
  finding N2 shows that it does not terminate on every valid input.)
-/
namespace Gbo.Props
open Gbo

/-- on the events of a valid input (linked, and collinear events of one kind at one point belong to
    different operands) the comparison never asks to exchange a pair in both directions -/
theorem C03_antiOn_of_valid (a : Arena) (l : List Nat)
    (hlinked : ∀ i ∈ l, ∃ o, (a.view i).otherPt = some o)
    (hok : ∀ i ∈ l, ∀ j ∈ l, i ≠ j → PairOk (a.view i) (a.view j)) : AntiOn a l := by
  intro x hx y hy hlt
  have hxy : cmpView (a.view x) (a.view y) = .lt := eq_of_beq hlt
  refine beq_eq_false_iff_ne.mpr fun hyx => ?_
  by_cases e : x = y
  · subst e
    cases (cmpView_self _).symm.trans hxy
  · obtain ⟨o1, h1⟩ := hlinked x hx
    obtain ⟨o2, h2⟩ := hlinked y hy
    have h := cmpView_antisymm h1 h2 (hok x hx y hy e)
    rw [hxy] at h
    cases h.symm.trans hyx

/-- `order_events`: the loop `while !sorted { one pass of adjacent exchanges }` ends after at most `n² + 1` passes,
    each exchange removing one inversion.  Only antisymmetry is used: a non-transitive comparison cannot make this
    loop run forever, one that asks to exchange a pair in both directions can (so the model's fuel failure can only
    occur in that case). -/
theorem C03_order_events_terminates (a : Arena) (r : Array Nat) (hanti : AntiOn a r.toList) :
    ∃ r', bubbleSort a (r.size * r.size + 2) r = some r' ∧ r'.toList.Perm r.toList ∧ AdjSorted a r' :=
  bubbleSort_terminates a _ r hanti
    (Nat.lt_of_le_of_lt (Array.length_toList ▸ invCount_le (evLt a) r.toList) (Nat.lt_add_of_pos_right (by decide)))

def exArena : Arena :=
  #[{ point := ⟨0, 0⟩, left := true, other := some 1, isSubject := true, contourId := 0, isExteriorRing := true },
    { point := ⟨1, 0⟩, left := false, other := some 0, isSubject := true, contourId := 0, isExteriorRing := true },
    { point := ⟨0, 1⟩, left := true, other := some 3, isSubject := false, contourId := 0, isExteriorRing := true },
    { point := ⟨2, 2⟩, left := false, other := some 2, isSubject := false, contourId := 0, isExteriorRing := true }]

/-- the conclusion is non-trivial: four events out of order are put in order -/
example : bubbleSort exArena 18 #[1, 3, 0, 2] = some #[0, 2, 1, 3] := by decide +kernel

/-- `connect_edges`, the inner `loop` that follows one contour: every round marks a result event that was not
    processed before, so it ends after at most `result_events.len()` rounds and the fuel the model gives it
    (`res.size + 1`) is never used up.  (The helper `get_next_pos` has its own loop and its own fuel message.) -/
theorem C03_contour_loop_terminates (res map : Array Nat) (contourId : Int) (initial : Pt) (st : CE) (pos : Nat)
    (hsz : st.processed.size = res.size) (hp : st.processed[pos]! = false) :
    contourLoop res map contourId initial (res.size + 1) st pos ≠ .error (.fuel "connect_edges contour loop") :=
  contourLoop_fuel hsz hp (Nat.lt_succ_of_le (hsz ▸ Array.count_le_size))

end Gbo.Props
