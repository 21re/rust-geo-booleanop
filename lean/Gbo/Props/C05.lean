import Gbo.Props.C01
import Gbo.Proofs.FillRoles
import Gbo.Proofs.Strip
/-
  C05 — the four operations are mutually consistent.  Proved, for all inputs: the pointwise set identities follow from
  C01 for the five calls (`C05_of_C01`); the operation enters `fill_queue` through the clipping polygons' contour ids
  and exterior flags only, and `compute_fields` through `result_transition` / `prev_in_result` only; everything below
  `compute_fields` is blind to those; hence union and xor build the same subdivision and every sweep is the `Union`
  sweep cut off at its own exit test.  That the five results satisfy the identities as regions is decided per run.
-/
namespace Gbo.Props
open Gbo Gbo.Spec

theorem C05_pointwise (a b : Bool) :
    (opSem .intersection a b && opSem .difference a b) = false
    ∧ (opSem .intersection a b && opSem .difference b a) = false
    ∧ (opSem .difference a b && opSem .difference b a) = false
    ∧ (opSem .intersection a b || opSem .difference a b || opSem .difference b a) = opSem .union a b
    ∧ (opSem .difference a b || opSem .difference b a) = opSem .xor a b := by
  cases a <;> cases b <;> decide

theorem C05_of_C01 (a b rI rD rE rU rX : MPoly) (q : Pt)
    (hI : memMP rI q = opSem .intersection (memEO a q) (memEO b q))
    (hD : memMP rD q = opSem .difference (memEO a q) (memEO b q))
    (hE : memMP rE q = opSem .difference (memEO b q) (memEO a q))
    (hU : memMP rU q = opSem .union (memEO a q) (memEO b q))
    (hX : memMP rX q = opSem .xor (memEO a q) (memEO b q)) :
    (memMP rI q && memMP rD q) = false ∧ (memMP rI q && memMP rE q) = false ∧ (memMP rD q && memMP rE q) = false
    ∧ (memMP rI q || memMP rD q || memMP rE q) = memMP rU q
    ∧ (memMP rD q || memMP rE q) = memMP rX q := by
  rw [hI, hD, hE, hU, hX]
  exact C05_pointwise _ _

/-- the selection of a `Normal` edge (`in_result`) under the four operations, side by side -/
theorem C05_tables (isSubject otherInOut : Bool) :
    inResultOf .normal .xor isSubject otherInOut = true
    ∧ (inResultOf .normal .intersection isSubject otherInOut != inResultOf .normal .union isSubject otherInOut) = true
    ∧ (inResultOf .normal .difference isSubject otherInOut
        = (if isSubject then inResultOf .normal .union isSubject otherInOut else inResultOf .normal .intersection isSubject otherInOut)) := by
  cases isSubject <;> cases otherInOut <;> decide

example : opSem .union true false = true ∧ opSem .intersection true false = false := by decide

/-- `fill_queue` reads the operation only in the test for `Difference`, which decides the clipping polygons' contour
    ids and exterior flags: the sweeps of intersection, union and xor over one operand pair start from the same state -/
theorem C05_fillQueue_same_for_symmetric_ops (a b : MPoly) (op op' : Op)
    (h : op ≠ .difference) (h' : op' ≠ .difference) : fillQueue a b op = fillQueue a b op' := by
  have hc : clipStep op = clipStep op' := by
    funext acc p
    simp only [clipStep, bne_iff_ne.2 h, bne_iff_ne.2 h']
  rw [fillQueue, hc, fillQueue]

theorem C05_fillQueue_subject_part (a b : MPoly) (op op' : Op) :
    (fillQueue a b op).sbbox = (fillQueue a b op').sbbox := rfl

/-- `Difference` included: up to contour ids and exterior flags (`stripRole`) the arena is the same, in the same order,
    and so is the binary heap as an array of indices: the four sweeps over one operand pair start from the same
    geometry in the same queue order -/
theorem C05_fillQueue_same_geometry (a b : MPoly) (op op' : Op) :
    (fillQueue a b op).fq.arena.map stripRole = (fillQueue a b op').fq.arena.map stripRole
    ∧ (fillQueue a b op).fq.heap = (fillQueue a b op').fq.heap
    ∧ (fillQueue a b op).sbbox = (fillQueue a b op').sbbox
    ∧ (fillQueue a b op).cbbox = (fillQueue a b op').cbbox := by
  have h (acc : Nat × FQ × Option BBox) := (clipFold_strip op b acc).symm.trans (clipFold_strip op' b acc)
  exact ⟨congrArg (·.1.arena) (h _), congrArg (·.1.heap) (h _), rfl, congrArg (·.2) (h _)⟩

theorem C05_event_order_ignores_roles (a a' : Arena) (h : a.map stripRole = a'.map stripRole) :
    evLe a = evLe a' := evLe_of_strip_eq h

/-- not vacuous: without stripping, the arenas of union and difference differ -/
theorem C05_fillQueue_roles_differ :
    ((fillQueue [{ ext := [⟨0,0⟩, ⟨1,0⟩, ⟨0,1⟩, ⟨0,0⟩], holes := [] }] [{ ext := [⟨0,0⟩, ⟨2,0⟩, ⟨0,2⟩, ⟨0,0⟩], holes := [] }] .union).fq.arena[6]!).contourId
    ≠ ((fillQueue [{ ext := [⟨0,0⟩, ⟨1,0⟩, ⟨0,1⟩, ⟨0,0⟩], holes := [] }] [{ ext := [⟨0,0⟩, ⟨2,0⟩, ⟨0,2⟩, ⟨0,0⟩], holes := [] }] .difference).fq.arena[6]!).contourId := by
  decide +kernel

/-- in `compute_fields` the operation decides `result_transition` (hence `in_result`) and, through it,
    `prev_in_result`, and nothing else -/
theorem C05_computeFields_op_independent (a a' : Arena) (h : a.map stripResult = a'.map stripResult)
    (event : Nat) (prev : Option Nat) (op op' : Op) :
    (computeFields a event prev op).map stripResult = (computeFields a' event prev op').map stripResult :=
  computeFields_rel h event prev op op'

/-- the in/out classification `compute_fields` gives an event (C14's flags) is the same for all four operations -/
theorem C05_computeFields_flags_same (a : Arena) (event : Nat) (prev : Option Nat) (op op' : Op) (j : Nat) :
    (computeFields a event prev op)[j]!.inOut = (computeFields a event prev op')[j]!.inOut
    ∧ (computeFields a event prev op)[j]!.otherInOut = (computeFields a event prev op')[j]!.otherInOut
    ∧ (computeFields a event prev op)[j]!.point = (computeFields a event prev op')[j]!.point
    ∧ (computeFields a event prev op)[j]!.other = (computeFields a event prev op')[j]!.other := by
  have h := computeFields_rel (a := a) rfl event prev op op'
  exact ⟨field_rel Ev.inOut h j fun _ => rfl, field_rel Ev.otherInOut h j fun _ => rfl,
    field_rel Ev.point h j fun _ => rfl, field_rel Ev.other h j fun _ => rfl⟩

/-- not vacuous: the forgotten field does depend on the operation -/
theorem C05_computeFields_result_differs :
    (computeFields (fillQueue [{ ext := [⟨0,0⟩, ⟨1,0⟩, ⟨0,1⟩, ⟨0,0⟩], holes := [] }] [] .union).fq.arena 0 none .union)[0]!.resTrans
    ≠ (computeFields (fillQueue [{ ext := [⟨0,0⟩, ⟨1,0⟩, ⟨0,1⟩, ⟨0,0⟩], holes := [] }] [] .union).fq.arena 0 none .intersection)[0]!.resTrans := by
  decide +kernel

/-- below `compute_fields`: `divide_segment` neither reads nor writes the fields the operation decides -/
theorem C05_divideSegment_op_blind (ar : Arith) (cfg : Cfg) (st : SwSt) (seL : Nat) (p : Pt) :
    divideSegment ar cfg (sSw st) seL p = exMap sSw (divideSegment ar cfg st seL p) :=
  divideSegment_evMap (sweepMap_strip ar) cfg st seL p

/-- nor does `possible_intersection`, overlap branch and coincidence marking included -/
theorem C05_possibleIntersection_op_blind (ar : Arith) (cfg : Cfg) (st : SwSt) (se1 se2 : Nat) :
    possibleIntersection ar cfg (sSw st) se1 se2 = exMap sRes (possibleIntersection ar cfg st se1 se2) :=
  possibleIntersection_evMap (sweepMap_strip ar) cfg st se1 se2

/-- the whole sweep: on any queue `subdivide` under `Union` and under `Xor` fail in the same way or return outputs equal
    in everything except `result_transition` and `prev_in_result`.  The two results can therefore differ only through
    the selection tables (`C05_tables`, `C01_tables_*`), which is what the identities of C05 are about.
    (Intersection and difference leave the loop early: for them see `C05_sweep_is_common_sweep_cut`.) -/
theorem C05_union_xor_same_subdivision (ar : Arith) (cfg : Cfg) (fq : FQ) (sb cb : BBox) :
    exMap sOut (subdivide ar cfg fq sb cb .union) = exMap sOut (subdivide ar cfg fq sb cb .xor) :=
  subdivide_rel ar cfg fq sb cb .union .xor (Or.inl rfl) (Or.inr rfl)

theorem C05_union_xor_same_subdivision_of_operands (ar : Arith) (cfg : Cfg) (a b : MPoly) (sb cb : BBox) :
    exMap sOut (subdivide ar cfg (fillQueue a b .union).fq sb cb .union)
      = exMap sOut (subdivide ar cfg (fillQueue a b .xor).fq sb cb .xor) := by
  rw [C05_fillQueue_same_for_symmetric_ops a b .union .xor (by decide) (by decide)]
  exact C05_union_xor_same_subdivision ar cfg _ sb cb

/-- one iteration, any two of the four operations whose exit tests do not fire at this event: all four sweeps of one
    operand pair perform the same steps until an exit test fires -/
theorem C05_step_same_until_exit (ar : Arith) (cfg : Cfg) (op op' : Op) (rb sx : Rat)
    {st st' : SwSt} (h : sSw st = sSw st') (event : Nat)
    (hx : exitsAt op rb sx st.arena[event]!.point = false)
    (hx' : exitsAt op' rb sx st'.arena[event]!.point = false) :
    exMap (fun r : Bool × SwSt => (r.1, sSw r.2)) (sweepStep ar cfg op rb sx st event)
      = exMap (fun r : Bool × SwSt => (r.1, sSw r.2)) (sweepStep ar cfg op' rb sx st' event) :=
  sweepStep_rel_of_exit_eq ar cfg h event (hx.trans hx'.symm)

theorem C05_step_exit (ar : Arith) (cfg : Cfg) (op : Op) (rb sx : Rat) (st : SwSt) (event : Nat)
    (hx : exitsAt op rb sx st.arena[event]!.point = true) :
    sweepStep ar cfg op rb sx st event = .ok (true, { st with sorted := st.sorted.push event }) :=
  sweepStep_exit ar cfg op rb sx st event hx

theorem C05_exit_only_intersection_difference (op : Op) (rb sx : Rat) (p : Pt) (h : exitsAt op rb sx p = true) :
    op = .intersection ∨ op = .difference := by
  simp only [exitsAt, Bool.or_eq_true, Bool.and_eq_true, beq_iff_eq] at h
  exact h.imp And.left And.left

example : exitsAt .intersection 1 5 ⟨2, 0⟩ = true ∧ exitsAt .difference 1 5 ⟨2, 0⟩ = false := by decide +kernel

/-- C05 / C09, the whole loop, all four operations: the loop of `subdivide` under `op` fails or ends exactly as the
    loop of `Union`, which never exits early, cut at the first popped event on which `op`'s own exit test fires
    (`sweepLoopCut`), up to `result_transition` / `prev_in_result`.  So the four sweeps of one operand pair build one
    subdivision; intersection and difference see a prefix of it, and the early termination changes nothing before
    the cut. -/
theorem C05_sweep_is_common_sweep_cut (ar : Arith) (cfg : Cfg) (op : Op) (fq : FQ) (sb cb : BBox) :
    exMap sSw (sweepLoop ar cfg op (rmin sb.maxx cb.maxx) sb.maxx (cfg.budget + 1) { arena := fq.arena, heap := fq.heap })
      = exMap sSw (sweepLoopCut ar cfg (exitsAt op (rmin sb.maxx cb.maxx) sb.maxx) (rmin sb.maxx cb.maxx) sb.maxx
          (cfg.budget + 1) { arena := fq.arena, heap := fq.heap }) :=
  (sweepLoop_is_cut_union ar cfg op _ ⟨rfl⟩).exMap_eq fun _ _ => sSw_eq_of_swRel

def cutA : MPoly := [{ ext := [⟨0,0⟩, ⟨2,0⟩, ⟨2,2⟩, ⟨0,2⟩, ⟨0,0⟩], holes := [] }]
def cutB : MPoly := [{ ext := [⟨1,1⟩, ⟨5,1⟩, ⟨5,3⟩, ⟨1,3⟩, ⟨1,1⟩], holes := [] }]

/-- the cut is real: on these operands the sweep of union records all 24 events there are in the end (16 from
    `fill_queue`, 8 from four divisions), the sweep of intersection stops at the 21st, the first behind the right bound
    x = 2 of the smaller box (evaluated by the kernel, exact arithmetic) -/
theorem C05_cut_is_proper :
    (match subdivide Arith.exact {} (fillQueue cutA cutB .intersection).fq ⟨0,0,2,2⟩ ⟨1,1,5,3⟩ .intersection with
      | .ok o => o.sorted.size | _ => 0) = 21
    ∧ (match subdivide Arith.exact {} (fillQueue cutA cutB .union).fq ⟨0,0,2,2⟩ ⟨1,1,5,3⟩ .union with
      | .ok o => o.sorted.size | _ => 0) = 24 := by
  have hM (x : Except Fail SweepOut) : (match x with | .ok o => o.sorted.size | _ => 0) =
      (match exMap SweepOut.sorted x with | .ok s => s.size | _ => 0) := by
    cases x <;> rfl
  -- both runs are the loop of `Union` from the same queue, cut at different tests: stated so, the rounds before the first
  -- cut are the same terms in both, the kernel evaluates them once, and the two runs cost little more than one
  rw [hM, hM, subdivide_cut_sorted, subdivide_cut_sorted,
    C05_fillQueue_same_for_symmetric_ops cutA cutB .intersection .union (by decide) (by decide)]
  decide +kernel

/-- C14 / C05, whole sweep, union against xor (the two that run to the end): the classification of the events is a
    function of the geometry, not of the operation -/
theorem C14_flags_same_union_xor (ar : Arith) (cfg : Cfg) (fq : FQ) (sb cb : BBox) (o o' : SweepOut)
    (h : subdivide ar cfg fq sb cb .union = .ok o) (h' : subdivide ar cfg fq sb cb .xor = .ok o') (j : Nat) :
    o.arena.size = o'.arena.size ∧ o.sorted = o'.sorted
    ∧ o.arena[j]!.inOut = o'.arena[j]!.inOut ∧ o.arena[j]!.otherInOut = o'.arena[j]!.otherInOut
    ∧ o.arena[j]!.edgeType = o'.arena[j]!.edgeType
    ∧ o.arena[j]!.point = o'.arena[j]!.point ∧ o.arena[j]!.other = o'.arena[j]!.other := by
  have key := C05_union_xor_same_subdivision ar cfg fq sb cb
  rw [h, h'] at key
  have key : sOut o = sOut o' := Except.ok.inj key
  have ha : sA o.arena = sA o'.arena := congrArg SweepOut.arena key
  exact ⟨size_eq_of_sA_eq ha, (congrArg SweepOut.sorted key :), field_rel Ev.inOut ha j fun _ => rfl,
    field_rel Ev.otherInOut ha j fun _ => rfl, field_rel Ev.edgeType ha j fun _ => rfl,
    field_rel Ev.point ha j fun _ => rfl, field_rel Ev.other ha j fun _ => rfl⟩

end Gbo.Props
