import Gbo.Proofs.Layout
/-
  Per-run certificates for C02 (valid polygon set) and for "two results describe the same region" (used by
  C06, C07, C08, C09): when the executed check answers `ok`, the statement holds at every clear point of
  every checked cell of the plane.
-/
namespace Gbo.Props
open Gbo Gbo.Spec

/-- the check also evaluates the nesting formula; this statement keeps the agreement of the structural and the even-odd
    reading only -/
theorem C02_check_sound (m : MPoly) (tol : Rat) (htol : 0 ≤ tol) (c t : Nat)
    (h : c02Check m tol = .ok c t) (q : Pt)
    (hclear : ∀ i, i < (layout m #[]).atoms.size → ∀ e ∈ (layout m #[]).atoms[i]!, onSeg q e = false)
    (hcell : (∀ y ∈ breakpoints (tagAll (layout m #[]).atoms), q.x < y)
           ∨ (∀ y ∈ breakpoints (tagAll (layout m #[]).atoms), y < q.x)
           ∨ InCheckedCell (tagAll (layout m #[]).atoms) tol (breakpoints (tagAll (layout m #[]).atoms)) q) :
    memMP m q = memEO m q := by
  have hs := regionFormulaCheck_sound_tol _ _ tol htol c t h q hclear hcell
  rw [c02Formula, Bool.and_eq_true, evalMP_layout m #[] (.refl _) q, evalEO_layout m #[] (.refl _) q, beq_iff_eq] at hs
  exact hs.2

theorem sameRegion_check_sound (r1 r2 : MPoly) (tol : Rat) (htol : 0 ≤ tol) (c t : Nat)
    (h : sameRegionCheck r1 r2 tol = .ok c t) (q : Pt)
    (hclear : ∀ i, i < (sameRegionLayouts r1 r2).2.atoms.size → ∀ e ∈ (sameRegionLayouts r1 r2).2.atoms[i]!, onSeg q e = false)
    (hcell : (∀ y ∈ breakpoints (tagAll (sameRegionLayouts r1 r2).2.atoms), q.x < y)
           ∨ (∀ y ∈ breakpoints (tagAll (sameRegionLayouts r1 r2).2.atoms), y < q.x)
           ∨ InCheckedCell (tagAll (sameRegionLayouts r1 r2).2.atoms) tol (breakpoints (tagAll (sameRegionLayouts r1 r2).2.atoms)) q) :
    memMP r1 q = memMP r2 q := by
  unfold sameRegionCheck at h
  have hs := regionFormulaCheck_sound_tol _ _ tol htol c t h q hclear hcell
  -- the atoms of `r2` are laid out after those of `r1`, whose layout they extend
  simp only [sameRegionLayouts] at hs
  rwa [evalMP_layout r1 #[] (layout_spec r2 _).2 q, evalMP_layout r2 _ (.refl _) q, beq_iff_eq] at hs

end Gbo.Props
