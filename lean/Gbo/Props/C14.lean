import Gbo.Props.Tables
/-
  C14 — the sweep classification of every sub-segment matches the geometry.
  Local soundness of `compute_fields`: given that nothing lies between the predecessor and the event,
  every branch of the propagation produces the semantic flags.
-/
namespace Gbo.Props
open Gbo Gbo.Spec

/-- Semantic premises.  `pOwnAbove` / `pOtherAbove`: membership of the predecessor's own / other operand
    adjacent above the predecessor `p` (what `p`'s flags mean: `p.in_out = !pOwnAbove`,
    `p.other_in_out = !pOtherAbove`).  The event `e` starts above `p` with nothing in between.  When `p`
    is vertical, `e` lies to its right, which is the side the sweep order calls *below* `p`: there the
    own operand of `p` has the opposite state, the other operand the same. -/
def belowEvent (pVert pOwnAbove pOtherAbove : Bool) : Bool × Bool :=
  (if pVert then !pOwnAbove else pOwnAbove, pOtherAbove)

theorem C14_propagation_sound (evSubj pSubj pVert pOwnAbove pOtherAbove : Bool) :
    let (belowOwnP, belowOtherP) := belowEvent pVert pOwnAbove pOtherAbove
    -- in terms of the event's own / other operand
    let ownBelow := if evSubj = pSubj then belowOwnP else belowOtherP
    let otherBelow := if evSubj = pSubj then belowOtherP else belowOwnP
    propagateFlags evSubj (some (pSubj, !pOwnAbove, !pOtherAbove, pVert))
      = flagsOf { ownBelow := ownBelow, otherBelow := otherBelow } := by
  revert evSubj pSubj pVert pOwnAbove pOtherAbove
  decide

/-- no predecessor: both operands are outside below the event -/
theorem C14_propagation_sound_bottom (evSubj : Bool) :
    propagateFlags evSubj none = flagsOf { ownBelow := false, otherBelow := false } := by
  revert evSubj
  decide

/-- with the semantic flags, selection and transition are the semantic ones (all operations) -/
theorem C14_selection_sound (op : Op) (isSubject ownBelow otherBelow : Bool) :
    let s : Sides := { ownBelow := ownBelow, otherBelow := otherBelow }
    let (io, oio) := flagsOf s
    (inResultOf .normal op isSubject oio
        = (resultOf op isSubject s.ownBelow s.otherBelow != resultOf op isSubject s.ownAbove s.otherAbove))
    ∧ (inResultOf .normal op isSubject oio = true →
        (resultTransitionOf .normal op isSubject io oio = .outIn ↔ resultOf op isSubject s.ownAbove s.otherAbove = true)) :=
  C01_tables_normal op isSubject ownBelow otherBelow

/-- The pinned tree's propagation (before fix 60217e3) negated `in_out` for a vertical predecessor of
    the same operand; the semantic flag is the copy. -/
def propagateFlagsPinned (evSubject : Bool) (prev : Option (Bool × Bool × Bool × Bool)) : Bool × Bool :=
  match prev with
  | none => (false, true)
  | some (pSubj, pInOut, pOtherInOut, pVert) =>
    if evSubject = pSubj then (!pInOut, pOtherInOut)
    else if pVert then (!pOtherInOut, !pInOut)
    else (!pOtherInOut, pInOut)

theorem C14_counterexample_F2_pinned :
    propagateFlagsPinned true (some (true, false, true, true))
      ≠ flagsOf { ownBelow := (belowEvent true true false).1, otherBelow := (belowEvent true true false).2 } := by decide

/-- non-vacuity: the vertical same-operand branch is taken and gives the copied flag -/
example : propagateFlags true (some (true, false, true, true)) = (false, true) := by decide

end Gbo.Props
