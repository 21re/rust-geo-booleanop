import Gbo.Model.Sweep
import Gbo.Proofs.Orders
import Gbo.Proofs.HeapInv
/-
  The event queue: std's BinaryHeap (as modelled) driven by the event order.  First what a valid input gives
  (`ValidEvents`) and that on such events the heap's `≤` is transitive and total on distinct events (`evLe_pre`,
  from antisymmetry and transitivity of the event order); then the consequences: the queue keeps the heap invariant,
  loses and invents nothing, and always pops an event that no queued event precedes.  (C13 "left event first in
  sweep order", C15 "the queue and the order are consistent", C03 "every queued event is popped exactly once".)
-/
namespace Gbo.Props
open Gbo

/-- the events of a valid input: linked to their other endpoint, and two different events at one point, of
    one kind and collinear, belong to different operands -/
structure ValidEvents (a : Arena) (U : Nat → Prop) : Prop where
  linked : ∀ i, U i → ∃ o, Linked (a.view i) o
  pairOk : ∀ i j, U i → U j → i ≠ j → PairOk (a.view i) (a.view j)

theorem evLe_iff_lt (a : Arena) (i j : Nat) : evLe a i j = true ↔ cmpEv a i j = .lt := by
  unfold evLe
  cases h : cmpEv a i j with
  | lt => exact ⟨fun _ => rfl, fun _ => rfl⟩
  | eq => exact absurd h (cmpView_ne_eq _ _)
  | gt => exact ⟨nofun, nofun⟩

theorem ValidEvents.flip {a : Arena} {U : Nat → Prop} (hv : ValidEvents a U) {i j : Nat} (hi : U i) (hj : U j)
    (hij : i ≠ j) : cmpEv a j i = swapOrd (cmpEv a i j) := by
  obtain ⟨oi, ki⟩ := hv.linked i hi
  obtain ⟨oj, kj⟩ := hv.linked j hj
  exact cmpView_antisymm ki.1 kj.1 (hv.pairOk i j hi hj hij)

theorem evLe_pre (a : Arena) (U : Nat → Prop) (hv : ValidEvents a U) : Heap.Pre (evLe a) U := by
  constructor
  · intro x y z hx hy hz hxy hyz hxz h1 h2
    rw [evLe_iff_lt] at h1 h2 ⊢
    obtain ⟨ox, kx⟩ := hv.linked x hx
    obtain ⟨oy, ky⟩ := hv.linked y hy
    obtain ⟨oz, kz⟩ := hv.linked z hz
    -- `x < y < z` read backwards is `z > y > x`, where transitivity is proved
    have t : cmpEv a z x = .gt := cmpView_trans kz ky kx
      (hv.pairOk z y hz hy (Ne.symm hyz)) (hv.pairOk y x hy hx (Ne.symm hxy))
      ((hv.flip hy hz hyz).trans (congrArg swapOrd h2)) ((hv.flip hx hy hxy).trans (congrArg swapOrd h1))
    exact (hv.flip hz hx (Ne.symm hxz)).trans (congrArg swapOrd t)
  · intro x y hx hy hxy
    rw [evLe_iff_lt, evLe_iff_lt, hv.flip hx hy hxy]
    cases h : cmpEv a x y
    · exact Or.inl rfl
    · exact absurd h (cmpView_ne_eq (a.view x) (a.view y))
    · exact Or.inr rfl

/-- the queue pops in sweep order: no queued event is processed before the one `pop` returns -/
theorem queue_pop_is_first (a : Arena) (U : Nat → Prop) (hv : ValidEvents a U) (q : Array Nat)
    (hall : Heap.AllIn U q) (hheap : Heap.IsHeap (evLe a) q) (top : Nat) (q' : Array Nat)
    (h : Heap.pop (evLe a) q = some (top, q')) :
    (∀ i, i < q.size → q[i]! = top ∨ cmpEv a q[i]! top = .lt) ∧
    Heap.IsHeap (evLe a) q' ∧ Heap.AllIn U q' ∧ q'.size + 1 = q.size ∧
    ∀ v, q'.count v + (if top = v then 1 else 0) = q.count v := by
  obtain ⟨h1, h2, h3, h4, h5⟩ := Heap.pop_spec (evLe a) (evLe_pre a U hv) q hall hheap top q' h
  exact ⟨fun i hi => (h1 i hi).imp_right (evLe_iff_lt a _ _).mp, h2, h3, h4, h5⟩

theorem queue_push (a : Arena) (U : Nat → Prop) (hv : ValidEvents a U) (q : Array Nat) (x : Nat) (hx : U x)
    (hall : Heap.AllIn U q) (hheap : Heap.IsHeap (evLe a) q) :
    Heap.IsHeap (evLe a) (Heap.push (evLe a) q x) ∧ Heap.AllIn U (Heap.push (evLe a) q x) ∧
    ∀ v, (Heap.push (evLe a) q x).count v = q.count v + (if x = v then 1 else 0) := by
  obtain ⟨h1, h2, _, h4⟩ := Heap.push_spec (evLe a) (evLe_pre a U hv) q x hx hall hheap
  exact ⟨h1, h2, h4⟩

theorem queue_pop_none (a : Arena) (q : Array Nat) : Heap.pop (evLe a) q = none ↔ q.size = 0 :=
  Heap.pop_none_iff (evLe a) q

/-- draining the queue, nothing pushed in between (what the public `fill_queue` stage hands to the sweep), lists every
    queued event exactly once, and no event is preceded by one that comes out later -/
theorem queue_drain_in_sweep_order (a : Arena) (U : Nat → Prop) (hv : ValidEvents a U) (q : Array Nat)
    (hall : Heap.AllIn U q) (hheap : Heap.IsHeap (evLe a) q) :
    Heap.Descending (evLe a) (Heap.drain (evLe a) q.size q) ∧
    (Heap.drain (evLe a) q.size q).length = q.size ∧
    ∀ v, (Heap.drain (evLe a) q.size q).count v = q.count v :=
  Heap.drain_spec (evLe a) (evLe_pre a U hv) q.size q (Nat.le_refl _) hall hheap

/-- a concrete queue: the four events of two segments pushed in the wrong order; the first pop is the
    left-most lowest event (index 0), the second the left event of the other segment (index 2) -/
example :
    let a : Arena :=
      #[{ point := ⟨0, 0⟩, left := true, other := some 1, isSubject := true, contourId := 0, isExteriorRing := true },
        { point := ⟨1, 0⟩, left := false, other := some 0, isSubject := true, contourId := 0, isExteriorRing := true },
        { point := ⟨0, 1⟩, left := true, other := some 3, isSubject := false, contourId := 0, isExteriorRing := true },
        { point := ⟨2, 2⟩, left := false, other := some 2, isSubject := false, contourId := 0, isExteriorRing := true }]
    let q := [3, 1, 2, 0].foldl (Heap.push (evLe a)) #[]
    (match Heap.pop (evLe a) q with
     | some (t1, q1) => (match Heap.pop (evLe a) q1 with
        | some (t2, _) => t1 == 0 && t2 == 2
        | none => false)
     | none => false) = true := by
  decide +kernel

end Gbo.Props
