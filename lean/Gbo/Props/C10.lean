import Gbo.Props.C16
import Gbo.Proofs.ArithFrame
import Gbo.Proofs.Run
/-
  C10 — the f32 and f64 instantiations.  The model is one function of an arithmetic parameter; everything
  proved "for every rounding" holds for `Arith.f32` (binary32 round-to-nearest-even) and `Arith.f64`
  alike, and the two exact predicates (coordinate comparison, orientation sign) do not take the
  arithmetic at all: they are evaluated on the exact values of the operands, which is what "orientation
  evaluated in f64 after lossless widening" amounts to.  The agreement of the f32 pipeline with the model
  under binary32 rounding, and f32 = f64 on exact runs, are decided per run.
-/
namespace Gbo.Props
open Gbo

theorem C10_f32_point_in_both_boxes (a1 a2 b1 b2 p : Pt) (h : Arith.f32.isect a1 a2 b1 b2 = .point p) :
    InBox p (segBox a1 a2) ∧ InBox p (segBox b1 b2) := C16_point_in_both_boxes Arith.f32 a1 a2 b1 b2 p h

theorem C10_f64_point_in_both_boxes (a1 a2 b1 b2 p : Pt) (h : Arith.f64.isect a1 a2 b1 b2 = .point p) :
    InBox p (segBox a1 a2) ∧ InBox p (segBox b1 b2) := C16_point_in_both_boxes Arith.f64 a1 a2 b1 b2 p h

/-- the `.none` case of `C16_untouched` -/
theorem C10_untouched_both_precisions (cfg : Cfg) (st : SwSt) (se1 se2 o1 o2 : Nat)
    (h1 : st.arena[se1]!.other = some o1) (h2 : st.arena[se2]!.other = some o2) (ar : Arith)
    (h : ar.isect st.arena[se1]!.point st.arena[o1]!.point st.arena[se2]!.point st.arena[o2]!.point = .none) :
    possibleIntersection ar cfg st se1 se2 = .ok (0, st) := C16_untouched ar cfg st se1 se2 o1 o2 h1 h2 (Or.inl h)

/-- on a crossing of two lattice segments binary32, binary64 and exact arithmetic agree -/
example : Arith.f32.isect ⟨0, 0⟩ ⟨2, 2⟩ ⟨0, 2⟩ ⟨2, 0⟩ = Arith.exact.isect ⟨0, 0⟩ ⟨2, 2⟩ ⟨0, 2⟩ ⟨2, 0⟩
    ∧ Arith.f64.isect ⟨0, 0⟩ ⟨2, 2⟩ ⟨0, 2⟩ ⟨2, 0⟩ = Arith.exact.isect ⟨0, 0⟩ ⟨2, 2⟩ ⟨0, 2⟩ ⟨2, 0⟩ := by decide +kernel

/-- and they differ where the intersection is not representable: (1/3, 1/3) -/
example : Arith.f32.isect ⟨0, 0⟩ ⟨1, 1⟩ ⟨0, 1⟩ ⟨2, -3⟩ ≠ Arith.f64.isect ⟨0, 0⟩ ⟨1, 1⟩ ⟨0, 1⟩ ⟨2, -3⟩ := by decide +kernel

/-- C10, where the coordinate type enters: the run uses its arithmetic in exactly two places, the rounded intersection
    routine and the one-ulp step of `divide_segment`; every other decision (both orders, the orientation tests, all
    equality tests) is made on the exact values of the coordinates.  In the code f32 coordinates are widened to f64
    for `orient2d`, which is why the model's orientation is exact for both precisions; what differs between the f32
    and the f64 build is `intersection` and `next_after`. -/
theorem C10_depends_only_on_isect_and_nextUp (ar1 ar2 : Arith)
    (hi : ∀ a1 a2 b1 b2 : Pt, ar1.isect a1 a2 b1 b2 = ar2.isect a1 a2 b1 b2)
    (hn : ∀ x : Rat, ar1.nextUp x = ar2.nextUp x) (cfg : Cfg) (subject clipping : MPoly) (op : Op) :
    booleanOperation ar1 cfg subject clipping op = booleanOperation ar2 cfg subject clipping op := by
  simp only [booleanOperation_eq, sweepRun, subdivide_frame ⟨hi, hn⟩]

end Gbo.Props
