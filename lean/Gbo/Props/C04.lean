import Gbo.Proofs.EndToEnd
import Gbo.Proofs.ConnectPoints
import Gbo.Proofs.Once
import Gbo.Proofs.Provenance
import Gbo.Proofs.Links
/-
  C04 — output geometry comes from the inputs.  Proved here, for every input and every arithmetic: no invented
  vertices (one `possible_intersection`, the whole sweep, and end to end: every vertex of every ring returned through
  the sweep is generated from the operands' vertices by computed intersection points and one-ulp bumps); every ring
  handed to the result is closed (what `Polygon::new` / `LineString::close` guarantees); on the shortcut path the
  rings are the operands' own.  That ring edges are pieces of input edges, area and orientation are decided per run
  by the exact predicates of Gbo.Spec.Valid on the implementation's output.
-/
namespace Gbo.Props
open Gbo

theorem C04_closeRing_closed (r : Ring) : (closeRing r).head? = (closeRing r).getLast? := by
  obtain ⟨e, h⟩ | ⟨p, rest, rfl, e⟩ := closeRing_cases r
  · rwa [e]
  · rw [e]
    exact List.getLast?_concat.symm

theorem C04_closeRing_prefix (r : Ring) : ∃ t, closeRing r = r ++ t ∧ t.length ≤ 1 := by
  obtain ⟨e, _⟩ | ⟨p, rest, rfl, e⟩ := closeRing_cases r
  · exact ⟨[], by rw [e, List.append_nil], Nat.zero_le 1⟩
  · exact ⟨[p], e, Nat.le_refl 1⟩

theorem C04_shortcut_rings_unchanged (a b : MPoly) :
    trivialResult a b .difference = a ∧ trivialResult a b .union = a ++ b ∧ trivialResult a b .xor = a ++ b
    ∧ trivialResult a b .intersection = [] := ⟨rfl, rfl, rfl, rfl⟩

example : closeRing [⟨0,0⟩, ⟨1,0⟩, ⟨1,1⟩] = [⟨0,0⟩, ⟨1,0⟩, ⟨1,1⟩, ⟨0,0⟩] := by decide +kernel

/-- No invented vertices, one `possible_intersection` (every arithmetic, crossing and collinear-overlap branch, all
    return codes): every event it appends sits at the intersection point the routine computed or at the point of an
    existing event, in corner case 1 of `divide_segment` moved by one representable number in x.  Stated as an
    invariant for any predicate `Q` on points that holds of the computed point and is closed under that bump. -/
theorem C04_step_provenance (ar : Arith) (cfg : Cfg) (st st' : SwSt) (se1 se2 o1 o2 r : Nat) (Q : Pt → Prop)
    (h1 : st.arena[se1]!.other = some o1) (h2 : st.arena[se2]!.other = some o2)
    (hs1 : se1 < st.arena.size) (hs2 : se2 < st.arena.size) (ho1 : o1 < st.arena.size) (ho2 : o2 < st.arena.size)
    (hQ : PointsIn st.arena Q) (hb : ∀ q, Q q → Q { q with x := ar.nextUp q.x })
    (hi : ∀ p, ar.isect st.arena[se1]!.point st.arena[o1]!.point st.arena[se2]!.point st.arena[o2]!.point = .point p → Q p)
    (h : possibleIntersection ar cfg st se1 se2 = .ok (r, st')) :
    PointsIn st'.arena Q ∧ st.arena.size ≤ st'.arena.size ∧
    ∀ i, i < st.arena.size → st'.arena[i]!.point = st.arena[i]!.point :=
  Ext.iff.mp (possibleIntersection_points h h1 h2 ho1 ho2 hQ hb hi)

/-- under exact arithmetic there is no bump -/
theorem C04_step_provenance_exact (cfg : Cfg) (st st' : SwSt) (se1 se2 o1 o2 r : Nat) (Q : Pt → Prop)
    (h1 : st.arena[se1]!.other = some o1) (h2 : st.arena[se2]!.other = some o2)
    (hs1 : se1 < st.arena.size) (hs2 : se2 < st.arena.size) (ho1 : o1 < st.arena.size) (ho2 : o2 < st.arena.size)
    (hQ : PointsIn st.arena Q)
    (hi : ∀ p, Arith.exact.isect st.arena[se1]!.point st.arena[o1]!.point st.arena[se2]!.point st.arena[o2]!.point = .point p → Q p)
    (h : possibleIntersection Arith.exact cfg st se1 se2 = .ok (r, st')) :
    PointsIn st'.arena Q :=
  (C04_step_provenance Arith.exact cfg st st' se1 se2 o1 o2 r Q h1 h2 hs1 hs2 ho1 ho2 hQ (fun _ hq => hq) hi h).1

/-- No invented vertices, the whole sweep: the point of every event `subdivide` returns is generated (`Gen`) from the
    points of the events `fill_queue` created, the operands' vertices.  Under exact arithmetic the bump is the
    identity, so every vertex is an input vertex or an exact intersection point of two sub-segments. -/
theorem C04_subdivide_provenance (ar : Arith) (cfg : Cfg) (a b : MPoly) (op : Op) (sb cb : BBox) (sw : SweepOut)
    (h : subdivide ar cfg (fillQueue a b op).fq sb cb op = .ok sw) :
    PointsIn sw.arena (Gen ar (fun p => ∃ i, i < (fillQueue a b op).fq.arena.size ∧ (fillQueue a b op).fq.arena[i]!.point = p)) :=
  subdivide_provenance ar cfg _ sb cb op sw h (fillQueue_links a b op)

/-- No invented vertices, end to end: whenever `boolean_operation` returns through the sweep (`hnt`; on the
    bounding-box shortcut the operands' own rings are handed back, `C04_shortcut_rings_unchanged`), every vertex of
    every returned ring is generated from the operands' vertices by intersection points the routine computed for two
    segments between generated points and by the one-ulp bump of `divide_segment`. -/
theorem C04_vertices_generated (ar : Arith) (cfg : Cfg) (subject clipping : MPoly) (op : Op) (out : RunOut)
    (h : booleanOperation ar cfg subject clipping op = .ok out) (hnt : out.trivial = false) :
    ∀ poly, poly ∈ out.result → ∀ ring, ring ∈ poly.ext :: poly.holes → ∀ p, p ∈ ring →
      Gen ar (InputVertex subject clipping op) p := by
  obtain ⟨sb, cb, sw, contours, a', hsub, hcon, hrings⟩ := booleanOperation_rings h hnt
  have hgen := subdivide_provenance ar cfg _ sb cb op sw hsub (fillQueue_links subject clipping op)
  have hvalid := subdivide_sorted_valid ar cfg _ sb cb op sw hsub (fillQueue_valid subject clipping op)
  have hcont := connectEdges_points cfg sw.arena sw.sorted contours a' hcon
  intro poly hpoly ring hring p hp
  obtain ⟨c, hc, hr⟩ := hrings poly hpoly ring hring
  rw [hr] at hp
  obtain ⟨x, hx, hxp⟩ := hcont c hc p (mem_closeRing _ p hp)
  rw [← hxp]
  exact hgen x (hvalid x hx)

/-- the generators here are the vertices of the operands' rings themselves, not `fill_queue`'s events -/
theorem C04_vertices_from_operands (ar : Arith) (cfg : Cfg) (subject clipping : MPoly) (op : Op) (out : RunOut)
    (h : booleanOperation ar cfg subject clipping op = .ok out) (hnt : out.trivial = false) :
    ∀ poly, poly ∈ out.result → ∀ ring, ring ∈ poly.ext :: poly.holes → ∀ p, p ∈ ring →
      Gen ar (VertexOf (subject ++ clipping)) p := by
  intro poly hpoly ring hring p hp
  refine Gen.mono ?_ p (C04_vertices_generated ar cfg subject clipping op out h hnt poly hpoly ring hring p hp)
  rintro q ⟨i, hi, hq⟩
  rw [← hq]
  exact fillQueue_vertices subject clipping op i hi

theorem C04_rings_closed (ar : Arith) (cfg : Cfg) (subject clipping : MPoly) (op : Op) (out : RunOut)
    (h : booleanOperation ar cfg subject clipping op = .ok out) (hnt : out.trivial = false) :
    ∀ poly, poly ∈ out.result → ∀ ring, ring ∈ poly.ext :: poly.holes → ring.head? = ring.getLast? := by
  obtain ⟨_, _, _, _, _, _, _, hrings⟩ := booleanOperation_rings h hnt
  intro poly hpoly ring hring
  obtain ⟨c, _, hr⟩ := hrings poly hpoly ring hring
  rw [hr]
  exact C04_closeRing_closed _

/-- non-vacuity: two crossing squares; the sweep path is taken and returns a ring -/
example :
    (match booleanOperation Arith.exact { budget := 1000 }
        [{ ext := [⟨0, 0⟩, ⟨2, 0⟩, ⟨2, 2⟩, ⟨0, 2⟩, ⟨0, 0⟩], holes := [] }]
        [{ ext := [⟨1, 1⟩, ⟨3, 1⟩, ⟨3, 3⟩, ⟨1, 3⟩, ⟨1, 1⟩], holes := [] }] .intersection with
     | .ok out => out.trivial == false && out.result.length == 1
     | .error _ => false) = true := by
  decide +kernel

end Gbo.Props
