import Gbo.Proofs.BBoxMem
import Gbo.Props.C01
/-
  C09 / C01 / C06 — the bounding-box shortcut is sound: when an axis-parallel line separates the vertices
  of the two operands (which is what disjoint bounding boxes mean), no point lies in both operands, and
  the value returned by `trivial_result` has exactly the region the operation names (structural reading
  on both sides).  For all inputs with closed rings; arithmetic plays no role.
-/
namespace Gbo.Props
open Gbo Gbo.Spec

def vertsOf (m : MPoly) : List Pt := m.flatMap (fun p => p.ext ++ p.holes.flatMap id)

def ClosedRings (m : MPoly) : Prop := ∀ p ∈ m, p.ext.head? = p.ext.getLast?

/-- an axis-parallel line separates the two vertex sets (either order, either axis) -/
def BoxesApart (a b : MPoly) : Prop :=
  (∃ c, (∀ p ∈ vertsOf a, p.x ≤ c) ∧ (∀ p ∈ vertsOf b, c < p.x)) ∨
  (∃ c, (∀ p ∈ vertsOf b, p.x ≤ c) ∧ (∀ p ∈ vertsOf a, c < p.x)) ∨
  (∃ c, (∀ p ∈ vertsOf a, p.y ≤ c) ∧ (∀ p ∈ vertsOf b, c < p.y)) ∨
  (∃ c, (∀ p ∈ vertsOf b, p.y ≤ c) ∧ (∀ p ∈ vertsOf a, c < p.y))

theorem ext_of_verts {m : MPoly} {P : Pt → Prop} (h : ∀ v ∈ vertsOf m, P v) : ∀ p ∈ m, ∀ v ∈ p.ext, P v :=
  fun p hp v hv => h v (List.mem_flatMap.2 ⟨p, hp, List.mem_append_left _ hv⟩)

theorem not_both_of_apart (a b : MPoly) (ha : ClosedRings a) (hb : ClosedRings b) (h : BoxesApart a b) (q : Pt) :
    memMP a q = false ∨ memMP b q = false := by
  rcases h with ⟨c, h1, h2⟩ | ⟨c, h1, h2⟩ | ⟨c, h1, h2⟩ | ⟨c, h1, h2⟩
  · exact not_both_of_vertical (ext_of_verts h1) (ext_of_verts h2) q
  · exact (not_both_of_vertical (ext_of_verts h1) (ext_of_verts h2) q).symm
  · exact not_both_of_horizontal ha (ext_of_verts h1) (ext_of_verts h2) q
  · exact (not_both_of_horizontal hb (ext_of_verts h1) (ext_of_verts h2) q).symm

theorem C01_trivial_path (a b : MPoly) (op : Op) (ha : ClosedRings a) (hb : ClosedRings b) (h : BoxesApart a b) (q : Pt) :
    memMP (trivialResult a b op) q = opSem op (memMP a q) (memMP b q) := by
  -- for two memberships that are never both true the four operations come to: nothing, the first, either, either
  have key : ∀ x y : Bool, x = false ∨ y = false → false = (x && y) ∧ x = (x && !y) ∧ (x || y) = (x != y) := by decide
  obtain ⟨h1, h2, h3⟩ := key _ _ (not_both_of_apart a b ha hb h q)
  cases op
  · exact h1
  · exact h2
  · exact memMP_append a b q
  · exact (memMP_append a b q).trans h3

/-- an added part contributes only itself to the shortcut's union value: no separation is needed for this, it is
    Boolean algebra on `trivialResult … .union = a ++ b` (C09, on the shortcut path; that the shortcut is taken at
    all is where the separation enters) -/
theorem C09_far_part_union (a b part : MPoly) (q : Pt) :
    memMP (trivialResult (a ++ part) b .union) q = (memMP (trivialResult a b .union) q || memMP part q) := by
  simp only [trivialResult, memMP_append]
  cases memMP a q <;> cases memMP b q <;> cases memMP part q <;> rfl

/-- non-vacuity: two unit squares one apart -/
example :
    let a : MPoly := [{ ext := [⟨0,0⟩, ⟨1,0⟩, ⟨1,1⟩, ⟨0,1⟩, ⟨0,0⟩], holes := [] }]
    let b : MPoly := [{ ext := [⟨2,0⟩, ⟨3,0⟩, ⟨3,1⟩, ⟨2,1⟩, ⟨2,0⟩], holes := [] }]
    BoxesApart a b ∧ ClosedRings a ∧ ClosedRings b := by
  unfold ClosedRings
  exact ⟨Or.inl ⟨1, by decide +kernel, by decide +kernel⟩, by decide +kernel, by decide +kernel⟩

end Gbo.Props
