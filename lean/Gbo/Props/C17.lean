import Gbo.Proofs.SplayRefine
/-
  C17 — the splay tree behaves as a sorted map for every operation history.

  `history_refines`: for every lawful comparator and EVERY finite sequence of operations (insert, remove,
  get, find_key, contains, next, prev, min, max, clear, len, is_empty, extend, consuming iteration in any
  mix of directions), the model of `SplayTree` returns exactly what a sorted association list returns,
  `len` is the number of stored keys, and the search-tree invariant is maintained.  The model is tied to
  lib/src/splay by the correspondence check (tools/check C17).
-/
namespace Gbo.Props
open Gbo Gbo.Tree

variable {K V : Type}

inductive SOp (K V : Type)
  | insert (k : K) (v : V) | remove (k : K) | get (k : K) | findKey (k : K) | contains (k : K)
  | next (k : K) | prev (k : K) | min | max | clear | len | isEmpty
  | extend (kvs : List (K × V))
  | consume (dirs : List Bool)     -- into_iter, then `next` (true) / `next_back` (false); the rest is dropped

inductive SOut (K V : Type)
  | optV (o : Option V) | optK (o : Option K) | bool (b : Bool) | optKV (o : Option (K × V)) | nat (n : Nat) | unit
  | items (l : List (Option (K × V) × Nat))    -- each item with the size hint before it

def consumeModel : TreeIter K V → List Bool → List (Option (K × V) × Nat)
  | _, [] => []
  | it, d :: ds =>
    let r := if d then it.next else it.nextBack
    (r.2, it.remaining) :: consumeModel r.1 ds

def consumeSpec : List (K × V) → List Bool → List (Option (K × V) × Nat)
  | _, [] => []
  | l, d :: ds =>
    if d then (l.head?, l.length) :: consumeSpec l.tail ds
    else (l.getLast?, l.length) :: consumeSpec l.dropLast ds

def stepModel (cmp : K → K → Ordering) (s : SplayTree K V) : SOp K V → SplayTree K V × SOut K V
  | .insert k v => let r := s.insert cmp k v; (r.1, .optV r.2)
  | .remove k => let r := s.remove cmp k; (r.1, .optV r.2)
  | .get k => let r := s.get cmp k; (r.1, .optV r.2)
  | .findKey k => let r := s.findKey cmp k; (r.1, .optK r.2)
  | .contains k => let r := s.contains cmp k; (r.1, .bool r.2)
  | .next k => let r := s.next cmp k; (r.1, .optKV r.2)
  | .prev k => let r := s.prev cmp k; (r.1, .optKV r.2)
  | .min => (s, .optK s.min)
  | .max => (s, .optK s.max)
  | .clear => (s.clear, .unit)
  | .len => (s, .nat s.len)
  | .isEmpty => (s, .bool s.isEmpty)
  | .extend kvs => (s.extend cmp kvs, .unit)
  | .consume dirs => ({}, .items (consumeModel (TreeIter.ofTree s) dirs))

def stepSpec (cmp : K → K → Ordering) (l : List (K × V)) : SOp K V → List (K × V) × SOut K V
  | .insert k v => let r := sInsert cmp k v l; (r.1, .optV r.2)
  | .remove k => let r := sRemove cmp k l; (r.1, .optV r.2)
  | .get k => (l, .optV ((sGet cmp k l).map (·.2)))
  | .findKey k => (l, .optK ((sGet cmp k l).map (·.1)))
  | .contains k => (l, .bool (sGet cmp k l).isSome)
  | .next k => (l, .optKV (sNext cmp k l))
  | .prev k => (l, .optKV (sPrev cmp k l))
  | .min => (l, .optK (l.head?.map (·.1)))
  | .max => (l, .optK (l.getLast?.map (·.1)))
  | .clear => ([], .unit)
  | .len => (l, .nat l.length)
  | .isEmpty => (l, .bool l.isEmpty)
  | .extend kvs => (kvs.foldl (fun l kv => (sInsert cmp kv.1 kv.2 l).1) l, .unit)
  | .consume dirs => ([], .items (consumeSpec l dirs))

def runModel (cmp : K → K → Ordering) : SplayTree K V → List (SOp K V) → List (SOut K V)
  | _, [] => []
  | s, op :: ops => let r := stepModel cmp s op; r.2 :: runModel cmp r.1 ops

def runSpec (cmp : K → K → Ordering) : List (K × V) → List (SOp K V) → List (SOut K V)
  | _, [] => []
  | l, op :: ops => let r := stepSpec cmp l op; r.2 :: runSpec cmp r.1 ops

theorem consume_refines (it : TreeIter K V) (dirs : List Bool) (hrem : it.remaining = (inorder it.cur).length) :
    consumeModel it dirs = consumeSpec (inorder it.cur) dirs := by
  induction dirs generalizing it with
  | nil => rfl
  | cons d ds ih =>
    cases d
    · obtain ⟨h1, h2, h3⟩ := it.nextBack_spec hrem
      simp only [consumeModel, consumeSpec, Bool.false_eq_true, if_false, ih _ h3, h1, h2, hrem]
    · obtain ⟨h1, h2, h3⟩ := it.next_spec hrem
      simp only [consumeModel, consumeSpec, if_true, ih _ h3, h1, h2, hrem]

theorem step_refines {cmp : K → K → Ordering} (h : LawfulCmp cmp) (s : SplayTree K V) (op : SOp K V) (hi : s.Inv cmp) :
    SplayTree.Refines cmp (stepModel cmp s op) (stepSpec cmp s.abs op) := by
  cases op with
  | insert k v => exact (SplayTree.insert_refines h s k v hi).map SOut.optV
  | remove k => exact (SplayTree.remove_refines h s k hi).map SOut.optV
  | get k => exact (SplayTree.get_refines h s k hi).map SOut.optV
  | findKey k => exact (SplayTree.findKey_refines h s k hi).map SOut.optK
  | contains k => exact (SplayTree.contains_refines h s k hi).map SOut.bool
  | next k => exact (SplayTree.next_refines h s k hi).map SOut.optKV
  | prev k => exact (SplayTree.prev_refines h s k hi).map SOut.optKV
  | min => exact ⟨congrArg _ (minKey_spec s.root), rfl, hi⟩
  | max => exact ⟨congrArg _ (maxKey_spec s.root), rfl, hi⟩
  | clear => exact ⟨rfl, rfl, .nil, rfl⟩
  | len => exact ⟨congrArg _ hi.2, rfl, hi⟩
  | isEmpty => exact ⟨congrArg SOut.bool (by rw [SplayTree.isEmpty, hi.2, SplayTree.abs]; cases inorder s.root <;> rfl), rfl, hi⟩
  | extend kvs => exact (SplayTree.extend_refines h kvs s hi).map fun _ => SOut.unit
  | consume dirs => exact ⟨congrArg _ (consume_refines (.ofTree s) dirs hi.2), rfl, .nil, rfl⟩

theorem history_refines {cmp : K → K → Ordering} (h : LawfulCmp cmp) (ops : List (SOp K V)) (s : SplayTree K V) (hi : s.Inv cmp) :
    runModel cmp s ops = runSpec cmp s.abs ops := by
  induction ops generalizing s with
  | nil => rfl
  | cons op ops ih =>
    obtain ⟨h1, h2, h3⟩ := step_refines h s op hi
    simp only [runModel, runSpec]
    rw [h1, ih _ h3, h2]

theorem C17_history_refines {cmp : K → K → Ordering} (h : LawfulCmp cmp) (ops : List (SOp K V)) :
    runModel cmp ({} : SplayTree K V) ops = runSpec cmp [] ops :=
  history_refines h ops {} ⟨(List.Pairwise.nil : List.Pairwise _ ([] : List (K × V))), rfl⟩

theorem C17_invariant {cmp : K → K → Ordering} (h : LawfulCmp cmp) (ops : List (SOp K V)) (s : SplayTree K V) (hi : s.Inv cmp) :
    (ops.foldl (fun s op => (stepModel cmp s op).1) s).Inv cmp :=
  foldl_inv (fun s op _ hs => (step_refines h s op hs).inv) hi

theorem C17_iter_strictly_increasing {cmp : K → K → Ordering} (s : SplayTree K V) (hi : s.Inv cmp) :
    SortedKV cmp s.abs ∧
    consumeModel (TreeIter.ofTree s) (List.replicate s.size true)
      = consumeSpec s.abs (List.replicate s.size true) :=
  ⟨hi.1, consume_refines _ _ (by simp [TreeIter.ofTree, hi.2])⟩

/-- lookups restructure the tree but never copy, drop or re-create a node, for any comparator at all -/
theorem C17_nodes_preserved (cmp : K → K → Ordering) (key : K) (t : Tree K V) :
    inorder (splay cmp key t) = inorder t := splay_inorder cmp key t

/-- the integer comparators used by the correspondence check are lawful -/
theorem lawful_compare_int : LawfulCmp (fun a b : Int => compare a b) where
  refl _ := Int.compare_eq_eq.2 rfl
  swap a b := (Int.compare_swap a b).symm
  lt_trans h1 h2 := Int.compare_eq_lt.2 (Int.lt_trans (Int.compare_eq_lt.1 h1) (Int.compare_eq_lt.1 h2))
  eq_lt h1 h2 := Int.compare_eq_eq.1 h1 ▸ h2
  lt_eq h1 h2 := Int.compare_eq_eq.1 h2 ▸ h1
  eq_trans h1 h2 := Int.compare_eq_eq.1 h1 ▸ h2

/-- non-vacuity: a lawful comparator, and a history that removes a node with two children -/
example :
    runModel (fun a b : Int => compare a b) ({} : SplayTree Int Int)
      [.insert 2 20, .insert 1 10, .insert 3 30, .get 2, .remove 2, .next 1, .prev 3, .len, .consume [true, false, true]]
    = runSpec (fun a b : Int => compare a b) []
      [.insert 2 20, .insert 1 10, .insert 3 30, .get 2, .remove 2, .next 1, .prev 3, .len, .consume [true, false, true]] :=
  C17_history_refines lawful_compare_int _

end Gbo.Props
