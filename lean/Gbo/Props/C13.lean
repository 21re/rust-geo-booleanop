import Gbo.Proofs.Isect
import Gbo.Proofs.Provenance
import Gbo.Proofs.Once
/-
  C13 — the sweep yields a planar subdivision.  Proved here, for all inputs: `fill_queue` creates exactly one mutually
  linked pair per non-degenerate input edge, the left event first in sweep order, exact bounding boxes, every event
  queued once; one division step under exact arithmetic replaces a segment by two pieces that tile it; and, for every
  arithmetic, as invariants of the whole loop of `subdivide`: every pair mutually linked, equal operand flag and
  contour id within a pair, no event moved, every event recorded at most once (exactly once for union and xor).  The
  planarity / coverage clauses are decided per run by the exact oracle on the implementation's event list
  (tools/check C13).
-/
namespace Gbo.Props
open Gbo

theorem C13_fillQueue (a b : MPoly) (op : Op) :
    Paired (fillQueue a b op).fq.arena
    ∧ (fillQueue a b op).fq.arena.size = 2 * ((operandStarts a).length + (operandStarts b).length)
    ∧ (fillQueue a b op).sbbox = (operandStarts a).foldl bboxAdd none
    ∧ (fillQueue a b op).cbbox = (operandStarts b).foldl bboxAdd none := fillQueue_spec a b op

/-- a pair unfolded: the left event is the first in sweep order, so that `Ord::cmp` pops it first -/
theorem C13_pair_left_first (a : Arena) (k : Nat) (h : PairAt a k) :
    ∃ e1 e2, a[2 * k]? = some e1 ∧ a[2 * k + 1]? = some e2 ∧ e1.point ≠ e2.point ∧
      ((e1.left = true ∧ e2.left = false ∧ ptLt e1.point e2.point) ∨ (e1.left = false ∧ e2.left = true ∧ ptLt e2.point e1.point)) := by
  obtain ⟨e1, e2, g1, g2, _, _, hl, hne, h1, h2, _⟩ := h
  refine ⟨e1, e2, g1, g2, hne, ?_⟩
  cases hl2 : e2.left
  · rw [hl2] at hl
    exact .inl ⟨hl, rfl, h1 hl⟩
  · rw [hl2] at hl
    exact .inr ⟨hl, rfl, h2 hl2⟩

/-- non-vacuity: a unit square against a triangle -/
example :
    let sq : Poly := { ext := [⟨0,0⟩, ⟨1,0⟩, ⟨1,1⟩, ⟨0,1⟩, ⟨0,0⟩], holes := [] }
    let tr : Poly := { ext := [⟨0,0⟩, ⟨2,1⟩, ⟨0,2⟩, ⟨0,0⟩, ⟨0,0⟩], holes := [] }
    (fillQueue [sq] [tr] .union).fq.arena.size = 14 ∧ (operandStarts [sq]).length = 4 ∧ (operandStarts [tr]).length = 3 := by
  decide +kernel

/-- One division step under exact arithmetic, `divide_segment` being handed a point of the segment (`hon`: for a
    crossing that is `C16_exact_point_on_both`; for an overlap the point is an endpoint of the other segment lying
    on this one): the old segment is replaced by two pieces whose union is exactly the old segment, and nothing else
    changes its point or its partner.  This is the step that keeps "the pieces of every input edge tile that edge"
    invariant through the sweep. -/
theorem C13_divide_exact (cfg : Cfg) (st st' : SwSt) (seL seR : Nat) (inter : Pt)
    (h : divideSegment Arith.exact cfg st seL inter = .ok st')
    (hoth : st.arena[seL]!.other = some seR) (hL : seL < st.arena.size) (hR : seR < st.arena.size) (hne : seL ≠ seR)
    (hon : OnSegP inter st.arena[seL]!.point st.arena[seR]!.point) :
    st'.arena.size = st.arena.size + 2 ∧
    st'.arena[seL]!.other = some st.arena.size ∧ st'.arena[st.arena.size]!.other = some seL ∧
    st'.arena[st.arena.size + 1]!.other = some seR ∧ st'.arena[seR]!.other = some (st.arena.size + 1) ∧
    (∀ x, OnSegP x st.arena[seL]!.point st.arena[seR]!.point ↔
      (OnSegP x st'.arena[seL]!.point st'.arena[st.arena.size]!.point ∨
       OnSegP x st'.arena[st.arena.size + 1]!.point st'.arena[seR]!.point)) ∧
    (∀ i, i < st.arena.size → i ≠ seL → i ≠ seR →
      st'.arena[i]!.other = st.arena[i]!.other ∧ st'.arena[i]!.point = st.arena[i]!.point) := by
  have d := divideArena_divided inter hoth hR hne
  rw [divideSegment_exact_arena h hoth]
  refine ⟨d.size, d.other_seL, d.other_r, d.other_l, d.other_seR, ?_,
    fun i hi n1 n2 => ⟨d.other_old i hi n1 n2, d.point_old i hi⟩⟩
  intro x
  rw [d.point_old seL hL, d.point_old seR hR, d.point_r, d.point_l]
  exact OnSegP_split inter _ _ x hon

/-- non-vacuity: dividing the diagonal of a square at its midpoint -/
example :
    let a : Arena := #[{ point := ⟨0, 0⟩, left := true, other := some 1, isSubject := true, contourId := 0, isExteriorRing := true },
                       { point := ⟨2, 2⟩, left := false, other := some 0, isSubject := true, contourId := 0, isExteriorRing := true }]
    (match divideSegment Arith.exact {} { arena := a, heap := #[] } 0 ⟨1, 1⟩ with
     | .ok st' => st'.arena.size == 4 && st'.arena[0]!.other == some 2 && st'.arena[3]!.other == some 1
     | .error _ => false) = true := by
  decide +kernel

theorem C13_links_initial (a b : MPoly) (op : Op) : MutualLinks (fillQueue a b op).fq.arena :=
  fillQueue_links a b op

/-- "every sub-segment is a mutually linked event pair" as an invariant of `possible_intersection`, all branches and
    return codes (`compute_fields` and the sweep-line operations do not touch `other`) -/
theorem C13_links_preserved (ar : Arith) (cfg : Cfg) (st st' : SwSt) (se1 se2 r : Nat)
    (h : possibleIntersection ar cfg st se1 se2 = .ok (r, st')) (hl : MutualLinks st.arena) :
    MutualLinks st'.arena :=
  (mutualLinks_stable ar).pi cfg st st' se1 se2 r h hl

/-- the same as a theorem about the complete loop of `subdivide` -/
theorem C13_subdivide_links (ar : Arith) (cfg : Cfg) (a b : MPoly) (op : Op) (sb cb : BBox) (sw : SweepOut)
    (h : subdivide ar cfg (fillQueue a b op).fq sb cb op = .ok sw) : MutualLinks sw.arena :=
  subdivide_preserves ar (mutualLinks_stable ar) cfg _ sb cb op sw h (C13_links_initial a b op)

/-- whole sweep: the two events of every sub-segment carry the same operand flag and contour id (the events
    `divide_segment` makes inherit them from the divided segment), and no event is ever removed or moved -/
theorem C13_subdivide_pair_flags (ar : Arith) (cfg : Cfg) (a b : MPoly) (op : Op) (sb cb : BBox) (sw : SweepOut)
    (h : subdivide ar cfg (fillQueue a b op).fq sb cb op = .ok sw) :
    LinkedFlags sw.arena ∧ Keeps (fillQueue a b op).fq.arena sw.arena :=
  ⟨subdivide_preserves ar (linkedFlags_stable ar) cfg _ sb cb op sw h
      ⟨C13_links_initial a b op, (fillQueue_spec a b op).1.pairFlags⟩,
    subdivide_preserves ar (keeps_stable ar _) cfg _ sb cb op sw h (.refl _)⟩

theorem C13_fillQueue_queues_each_event_once (a b : MPoly) (op : Op) :
    ∀ v, (fillQueue a b op).fq.heap.count v = if v < (fillQueue a b op).fq.arena.size then 1 else 0 :=
  fun v => (Heap.perm_count (fillQueue_once a b op) v).trans Array.count_range

/-- whole sweep: every event is handled at most once, and exactly once when the sweep is not cut short.
    Conservation: at every moment each event of the arena, the operands' and those `divide_segment` appended, is
    either still queued or already recorded, once in total; union and xor have no early exit, so their loop ends
    only with an empty queue. -/
theorem C13_events_processed_once (ar : Arith) (cfg : Cfg) (a b : MPoly) (op : Op) (sb cb : BBox) (sw : SweepOut)
    (h : subdivide ar cfg (fillQueue a b op).fq sb cb op = .ok sw) :
    sw.sorted.toList.Nodup ∧ (∀ x, x ∈ sw.sorted.toList → x < sw.arena.size) ∧
    ((op = .union ∨ op = .xor) → sw.sorted.toList.Perm (List.range sw.arena.size)) := by
  obtain ⟨st, hperm, hempty, rfl⟩ := subdivide_once h (fillQueue_once a b op)
  have hfin : (st.heap.toList ++ st.sorted.toList).Perm (List.range st.arena.size) := by
    simpa using Array.perm_iff_toList_perm.mp hperm
  refine ⟨(List.nodup_append.mp (hfin.nodup_iff.mpr List.nodup_range)).2.1,
    fun x hx => List.mem_range.mp (hfin.mem_iff.mp (List.mem_append_right _ hx)), fun hop => ?_⟩
  rwa [Array.eq_empty_of_size_eq_zero (hempty hop)] at hfin

end Gbo.Props
