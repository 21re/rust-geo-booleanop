import Gbo.Proofs.Orders
/-
  C15 — the event order and the segment order are consistent orderings.
  All statements are over exact rational coordinates, hence over every finite float input.
-/
namespace Gbo.Props
open Gbo

/-- `SweepEvent::cmp` never answers `Ordering::Equal`, not even for an event and itself (`cmpView_self`) -/
theorem C15_cmp_never_equal (e1 e2 : EvView) : cmpView e1 e2 ≠ .eq := cmpView_ne_eq e1 e2

/-- by x, then y, then right-before-left -/
theorem C15_cmp_lexicographic (e1 e2 : EvView) :
    (ptLt e1.point e2.point → cmpView e1 e2 = .gt ∧ cmpView e2 e1 = .lt)
    ∧ (e1.point = e2.point → e1.left = false → e2.left = true → cmpView e1 e2 = .gt ∧ cmpView e2 e1 = .lt) :=
  ⟨fun h => ⟨cmpView_of_ptLt h, cmpView_of_ptGt h⟩, fun hp h1 h2 =>
    match e1, e2, hp, h1, h2 with
    | ⟨p, _, a, sa⟩, ⟨_, _, b, sb⟩, rfl, rfl, rfl => ⟨cmpView_right_left p a b sa sb, cmpView_left_right p b a sb sa⟩⟩

theorem C15_cmp_antisymmetric (e1 e2 : EvView) (o1 o2 : Pt) (h1 : e1.otherPt = some o1) (h2 : e2.otherPt = some o2)
    (hok : PairOk e1 e2) : cmpView e2 e1 = swapOrd (cmpView e1 e2) := cmpView_antisymm h1 h2 hok

/-- `PairOk` is needed: the configuration it excludes is the source's known antisymmetry gap, two
    collinear left events of the same operand at one point, which compare `Greater` both ways -/
theorem C15_cmp_gap_witness :
    let e1 : EvView := { point := ⟨0, 0⟩, left := true, otherPt := some ⟨1, 1⟩, isSubject := true }
    let e2 : EvView := { point := ⟨0, 0⟩, left := true, otherPt := some ⟨2, 2⟩, isSubject := true }
    cmpView e1 e2 = .gt ∧ cmpView e2 e1 = .gt := by decide +kernel

/-- then angular: among left events at one point, "is processed before" is the counter-clockwise order of
    the segments, which is transitive inside the half-plane of points after the common point -/
theorem C15_cmp_angular (p : Pt) (s1 s2 : Bool) (a b : Pt) (hne : orient p a b ≠ 0) :
    cmpView { point := p, left := true, otherPt := some a, isSubject := s1 }
            { point := p, left := true, otherPt := some b, isSubject := s2 } = .gt ↔ orient p a b > 0 := by
  rw [cmpView_left_iff]
  exact or_iff_left fun h => hne h.1

theorem C15_cmp_angular_transitive {p a b c : Pt} (ha : After p a) (hb : After p b) (hc : After p c)
    (hab : orient p a b > 0) (hbc : orient p b c > 0) : orient p a c > 0 := orient_trans_after ha hb hc hab hbc

theorem C15_cmp_transitive (e1 e2 e3 : EvView) (o1 o2 o3 : Pt)
    (k1 : Linked e1 o1) (k2 : Linked e2 o2) (k3 : Linked e3 o3)
    (ok12 : PairOk e1 e2) (ok23 : PairOk e2 e3) (ok13 : PairOk e1 e3)
    (h12 : cmpView e1 e2 = .gt) (h23 : cmpView e2 e3 = .gt) : cmpView e1 e3 = .gt :=
  cmpView_trans k1 k2 k3 ok12 ok23 h12 h23

def swapOut : CmpSegOut → CmpSegOut
  | .ord o => .ord (swapOrd o)
  | x => x

theorem swapOut_eq_map (x : CmpSegOut) : swapOut x = x.map swapOrd := by cases x <;> rfl

theorem swapOut_swapOut (x : CmpSegOut) : swapOut (swapOut x) = x := by
  cases x with
  | ord o => cases o <;> rfl
  | _ => rfl

/-- the segment order answers `Equal` only for the identical segment (release build) -/
theorem C15_compareSegments_eq_iff_same (ar : Arith) (s1 s2 : SegView) :
    compareSegView ar false s1 s2 = .ord .eq ↔ s1.id = s2.id := by
  -- the branches: debug assertion (compiled out), same segment, the core comparison one way round or the other
  fun_cases compareSegView ar false s1 s2 with
  | case1 h => cases h
  | case2 _ hid => exact iff_of_true rfl hid
  | case3 _ hid _ => exact iff_of_false (compareSegCore_ne_eq lessIf_ne_eq) hid
  | case4 _ hid _ => exact iff_of_false (compareSegCore_ne_eq lessIfInv_ne_eq) hid

theorem C15_compareSegments_antisymmetric (ar : Arith) (s1 s2 : SegView) (hid : s1.id ≠ s2.id)
    (hanti : cmpView s2.l s1.l = swapOrd (cmpView s1.l s2.l)) :
    compareSegView ar false s2 s1 = swapOut (compareSegView ar false s1 s2) := by
  unfold compareSegView
  simp only [Bool.false_and, Bool.false_eq_true, if_false, hid, hid.symm, hanti]
  -- whichever event is older, one side is the core comparison with `lessIf`, the other the one with `lessIfInv`
  cases hc : cmpView s1.l s2.l with
  | eq => exact absurd hc (cmpView_ne_eq s1.l s2.l)
  | gt =>
    show compareSegCore ar false lessIfInv s1 s2 = swapOut (compareSegCore ar false lessIf s1 s2)
    rw [compareSegCore_lessIfInv, swapOut_eq_map]
  | lt =>
    show compareSegCore ar false lessIf s2 s1 = swapOut (compareSegCore ar false lessIfInv s2 s1)
    rw [compareSegCore_lessIfInv, ← swapOut_eq_map, swapOut_swapOut]

/-- non-vacuity: two crossing-free segments sharing their left endpoint, in both argument orders -/
example :
    let l1 : EvView := { point := ⟨0, 0⟩, left := true, otherPt := some ⟨2, 0⟩, isSubject := true }
    let r1 : EvView := { point := ⟨2, 0⟩, left := false, otherPt := some ⟨0, 0⟩, isSubject := true }
    let l2 : EvView := { point := ⟨0, 0⟩, left := true, otherPt := some ⟨2, 1⟩, isSubject := false }
    let r2 : EvView := { point := ⟨2, 1⟩, left := false, otherPt := some ⟨0, 0⟩, isSubject := false }
    let s1 : SegView := { id := 0, l := l1, r := some r1, contourId := 1 }
    let s2 : SegView := { id := 2, l := l2, r := some r2, contourId := 2 }
    compareSegView Arith.exact false s1 s2 = .ord .lt ∧ compareSegView Arith.exact false s2 s1 = .ord .gt := by
  decide +kernel

end Gbo.Props
