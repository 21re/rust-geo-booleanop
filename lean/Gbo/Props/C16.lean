import Gbo.Proofs.Isect
import Gbo.Proofs.Step
/-
  C16 — the pairwise intersection step.

  Proved for EVERY rounding (any `Arith`, hence f32 and f64): containment of every reported point in the
  bounding boxes of both segments, no report for disjoint boxes, and the "meet only at a common endpoint /
  no intersection => both segments untouched" clauses of `possible_intersection`.
  Proved for exact arithmetic, non-parallel segments: `None` exactly when the segments are disjoint, the
  reported point lies on both segments, independence of the argument order.
  Not proved: the collinear-overlap branch under exact arithmetic (decided per run by the function-level
  correspondence and the classification oracle against exact arithmetic).  What `divide_segment` then does to the
  event arena is in `Props/C16Crossing.lean`.
-/
namespace Gbo.Props
open Gbo

theorem C16_point_in_both_boxes (ar : Arith) (a1 a2 b1 b2 p : Pt) (h : ar.isect a1 a2 b1 b2 = .point p) :
    InBox p (segBox a1 a2) ∧ InBox p (segBox b1 b2) := by
  have := isect_in_both_boxes ar a1 a2 b1 b2
  rwa [h] at this

theorem C16_overlap_in_both_boxes (ar : Arith) (a1 a2 b1 b2 p q : Pt) (h : ar.isect a1 a2 b1 b2 = .overlap p q) :
    (InBox p (segBox a1 a2) ∧ InBox p (segBox b1 b2)) ∧ (InBox q (segBox a1 a2) ∧ InBox q (segBox b1 b2)) := by
  have := isect_in_both_boxes ar a1 a2 b1 b2
  rwa [h] at this

theorem C16_none_of_disjoint_boxes (ar : Arith) (a1 a2 b1 b2 : Pt) (h : isectBBox a1 a2 b1 b2 = none) :
    ar.isect a1 a2 b1 b2 = .none := by
  unfold Arith.isect; rw [h]

theorem C16_exact_none_iff_disjoint (a1 a2 b1 b2 : Pt) (hk : krossOf a1 a2 b1 b2 ≠ 0) :
    Arith.exact.isect a1 a2 b1 b2 = .none ↔ ¬ ∃ p, OnSegP p a1 a2 ∧ OnSegP p b1 b2 := by
  rw [isect_exact_nonparallel hk, common_point_iff hk]
  by_cases hin : InRange a1 a2 b1 b2
  · rw [if_pos hin]; exact iff_of_false nofun (not_not_intro hin)
  · rw [if_neg hin]; exact iff_of_true rfl hin

theorem C16_exact_point_on_both (a1 a2 b1 b2 p : Pt) (hk : krossOf a1 a2 b1 b2 ≠ 0)
    (h : Arith.exact.isect a1 a2 b1 b2 = .point p) : OnSegP p a1 a2 ∧ OnSegP p b1 b2 := by
  rw [isect_exact_nonparallel hk] at h
  by_cases hin : InRange a1 a2 b1 b2
  · rw [if_pos hin] at h
    cases h
    exact atA_on_both hk hin
  · rw [if_neg hin] at h; cases h

theorem C16_exact_none_symmetric (a1 a2 b1 b2 : Pt) (hk : krossOf a1 a2 b1 b2 ≠ 0) :
    Arith.exact.isect a1 a2 b1 b2 = .none ↔ Arith.exact.isect b1 b2 a1 a2 = .none := by
  have hk' : krossOf b1 b2 a1 a2 ≠ 0 := by
    rw [show krossOf b1 b2 a1 a2 = - krossOf a1 a2 b1 b2 by unfold krossOf; ring]
    exact neg_ne_zero.2 hk
  rw [C16_exact_none_iff_disjoint a1 a2 b1 b2 hk, C16_exact_none_iff_disjoint b1 b2 a1 a2 hk']
  exact not_congr (exists_congr fun _ => and_comm)

theorem C16_untouched (ar : Arith) (cfg : Cfg) (st : SwSt) (se1 se2 o1 o2 : Nat)
    (h1 : st.arena[se1]!.other = some o1) (h2 : st.arena[se2]!.other = some o2)
    (h : ar.isect st.arena[se1]!.point st.arena[o1]!.point st.arena[se2]!.point st.arena[o2]!.point = .none
       ∨ (∃ p, ar.isect st.arena[se1]!.point st.arena[o1]!.point st.arena[se2]!.point st.arena[o2]!.point = .point p
            ∧ (st.arena[se1]!.point = st.arena[se2]!.point ∨ st.arena[o1]!.point = st.arena[o2]!.point))) :
    possibleIntersection ar cfg st se1 se2 = .ok (0, st) := by
  rw [possibleIntersection_eq, h1, h2]
  rcases h with h | ⟨p, hp, hshared⟩
  · simp only [h]
    rfl
  · simp only [hp, if_pos hshared]
    rfl

/-- non-vacuity: two crossing lattice segments; the exact routine reports the crossing point (1, 1) -/
example : Arith.exact.isect ⟨0, 0⟩ ⟨2, 2⟩ ⟨0, 2⟩ ⟨2, 0⟩ = .point ⟨1, 1⟩ ∧ krossOf ⟨0, 0⟩ ⟨2, 2⟩ ⟨0, 2⟩ ⟨2, 0⟩ ≠ 0 := by
  decide +kernel

/-- and binary64 rounding agrees on this input -/
example : Arith.f64.isect ⟨0, 0⟩ ⟨2, 2⟩ ⟨0, 2⟩ ⟨2, 0⟩ = .point ⟨1, 1⟩ := by decide +kernel

end Gbo.Props
