import Gbo.Spec.Region
/-
  C11 — results can be fed back in.  The algebra is a consequence of C01 for both calls plus C02 for the
  intermediate result (its structural and even-odd readings agree), pointwise; whether C01 / C02 hold for
  the two calls is what the per-run checks decide (the model is run on the implementation's own
  intermediate result and the final region is compared with the composed expression for all points of the
  checked cells).
-/
namespace Gbo.Props
open Gbo Gbo.Spec

theorem C11_of_C01_left (a b c r1 r2 : MPoly) (op1 op2 : Op) (q : Pt)
    (h1 : memMP r1 q = opSem op1 (memEO a q) (memEO b q))          -- C01 for the first call
    (hv : memEO r1 q = memMP r1 q)                                   -- C02 for the intermediate result
    (h2 : memMP r2 q = opSem op2 (memEO r1 q) (memEO c q)) :       -- C01 for the second call
    memMP r2 q = opSem op2 (opSem op1 (memEO a q) (memEO b q)) (memEO c q) := by
  rw [h2, hv, h1]

theorem C11_of_C01_right (a b c r1 r2 : MPoly) (op1 op2 : Op) (q : Pt)
    (h1 : memMP r1 q = opSem op1 (memEO a q) (memEO b q))
    (hv : memEO r1 q = memMP r1 q)
    (h2 : memMP r2 q = opSem op2 (memEO c q) (memEO r1 q)) :
    memMP r2 q = opSem op2 (memEO c q) (opSem op1 (memEO a q) (memEO b q)) := by
  rw [h2, hv, h1]

/-- the laws quoted in the property, as instances -/
theorem C11_laws (x y : Bool) :
    opSem .difference (opSem .union x y) y = opSem .difference x y
    ∧ opSem .difference x (opSem .difference x y) = opSem .intersection x y
    ∧ opSem .xor (opSem .xor x y) y = x
    ∧ opSem .intersection (opSem .union x y) x = x := by
  revert x y
  decide

/-- all rings counter-clockwise is harmless: the even-odd reading does not depend on ring direction or start
    (membership of a ring only depends on its set of edges, each read from its left to its right end) -/
theorem edgeBelow_reverse (q : Pt) (e : Seg) (h : e.1.x ≠ e.2.x) : edgeBelow q (e.2, e.1) = edgeBelow q e := by
  unfold edgeBelow
  by_cases h1 : e.1.x ≤ e.2.x
  · have h2 : ¬ e.2.x ≤ e.1.x := by
      intro h'; exact h (Rat.le_antisymm h1 h')
    simp [h1, h2]
  · have h2 : e.2.x ≤ e.1.x := Rat.le_of_lt (Rat.not_le.mp h1)
    simp [h1, h2]

example : opSem .difference (opSem .union true false) false = true := by decide

end Gbo.Props
