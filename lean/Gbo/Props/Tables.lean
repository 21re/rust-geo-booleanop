import Gbo.Spec.Region
/-
  Table theorems shared by C01, C05 and C14: the per-operation edge selection and the result transition
  are exactly "the named Boolean combination changes across the edge" / "is true above the edge",
  for every flag combination, including coincident edge pairs.
-/
namespace Gbo.Props
open Gbo Gbo.Spec

/-- membership of the two operands just below a sub-segment `e` of operand `own` that has no
    coincident twin: crossing `e` upwards flips the own operand and leaves the other one alone -/
structure Sides where
  ownBelow : Bool
  otherBelow : Bool
deriving DecidableEq, Repr

namespace Sides
def ownAbove (s : Sides) : Bool := !s.ownBelow
def otherAbove (s : Sides) : Bool := s.otherBelow
end Sides

/-- the value of `op` on (subject, clipping) memberships given own/other and which one is the subject -/
def resultOf (op : Op) (isSubject : Bool) (own other : Bool) : Bool :=
  if isSubject then opSem op own other else opSem op other own

/-- the flags the sweep is meant to record for such an edge (C14's reading) -/
def flagsOf (s : Sides) : Bool × Bool := (!s.ownAbove, !s.otherBelow)

/-- `Normal` edges: selected iff the result changes across the edge; `OutIn` iff the result holds above. -/
theorem C01_tables_normal (op : Op) (isSubject ownBelow otherBelow : Bool) :
    let s : Sides := { ownBelow := ownBelow, otherBelow := otherBelow }
    let (io, oio) := flagsOf s
    inResultOf .normal op isSubject oio
        = (resultOf op isSubject s.ownBelow s.otherBelow != resultOf op isSubject s.ownAbove s.otherAbove)
    ∧ (inResultOf .normal op isSubject oio = true →
        (resultTransitionOf .normal op isSubject io oio = .outIn ↔ resultOf op isSubject s.ownAbove s.otherAbove = true)) := by
  revert isSubject ownBelow otherBelow
  cases op <;> decide

/-- the edge type `possible_intersection` gives the lower edge of a coincident pair: both edges leave
    their operand in the same direction (`in_out` equal) or not.  `in_out` of an edge is "its operand is not
    above it", and above is the negation of below: the two negations are the two steps, not an accident -/
def twinType (ownBelow otherBelow : Bool) : EdgeType :=
  if (!(!ownBelow)) = (!(!otherBelow)) then .sameTransition else .differentTransition

/-- Coincident pairs: the lower edge (typed Same/DifferentTransition) carries the boundary exactly when
    the result changes across the pair, with the direction of the combined change. -/
theorem C01_tables_twin (op : Op) (isSubject ownBelow otherBelow : Bool) :
    let ownAbove := !ownBelow
    let otherAbove := !otherBelow
    let et := twinType ownBelow otherBelow
    let io := !ownAbove
    let oio := !otherBelow
    inResultOf et op isSubject oio
        = (resultOf op isSubject ownBelow otherBelow != resultOf op isSubject ownAbove otherAbove)
    ∧ (inResultOf et op isSubject oio = true →
        (resultTransitionOf et op isSubject io oio = .outIn ↔ resultOf op isSubject ownAbove otherAbove = true))
    ∧ inResultOf .nonContributing op isSubject oio = false := by
  revert isSubject ownBelow otherBelow
  cases op <;> decide

/-- non-vacuity: a union edge with the other operand outside is selected and is an `OutIn` boundary -/
example : inResultOf .normal .union true true = true ∧ resultTransitionOf .normal .union true false true = .outIn := by decide

/-- The pinned tree's table (before fix 1711bf9) took the other operand's state from below the pair:
    it is wrong for a coincident pair, e.g. union with both operands starting at the shared edge. -/
def resultTransitionPinned (op : Op) (isSubject inOut otherInOut : Bool) : ResTrans :=
  let thisIn := !inOut
  let thatIn := !otherInOut
  let isIn := match op with
    | .intersection => thisIn && thatIn
    | .union => thisIn || thatIn
    | .xor => thisIn != thatIn
    | .difference => if isSubject then thisIn && !thatIn else thatIn && !thisIn
  if isIn then .outIn else .inOut

theorem C01_counterexample_F1_pinned :
    -- both operands end at the shared edge (inside below, outside above): union is outside above,
    -- but the pinned table reports OutIn
    resultTransitionPinned .union true true false = .outIn
    ∧ resultOf .union true false false = false
    ∧ resultTransitionOf .sameTransition .union true true false = .inOut := by decide

end Gbo.Props
