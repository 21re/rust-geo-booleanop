import Gbo.Proofs.ScaleIsect
import Gbo.Proofs.MapRun
/-
  C08 — results commute with exact similarity transforms.  Proved: coordinate comparisons and the orientation
  sign, hence the whole event order, are unchanged by scaling with a positive factor and by translation; the
  rounded intersection routine commutes with every scale factor the arithmetic handles exactly; the whole run
  (`fill_queue`, the sweep, `connect_edges`, the assembly) is equivariant under every map of the plane that the two
  orders and the arithmetic cannot tell from the identity (`C08_run_equivariant`), which scaling by c > 0 is for
  exact arithmetic and for any arithmetic that scales exactly by c.  Decided per run: binary floating point scales
  exactly by powers of two only while nothing over- or underflows (`rndBin` has a smallest exponent), and the eight
  axis symmetries are not order preserving (bit-identical mapped results for 2^k, k in ±200, and for integer
  translations on exact runs; regions for the axis symmetries).
-/
namespace Gbo.Props
open Gbo

theorem C08_orientation_scale (k : Rat) (a b c : Pt) :
    orient (scalePt k a) (scalePt k b) (scalePt k c) = k * k * orient a b c := orient_scale k a b c

theorem C08_orientation_shift (dx dy : Rat) (a b c : Pt) :
    orient (shiftPt dx dy a) (shiftPt dx dy b) (shiftPt dx dy c) = orient a b c := orient_shift dx dy a b c

theorem C08_event_order_scale (k : Rat) (hk : 0 < k) (e1 e2 : EvView) :
    cmpView (mapView (scalePt k) e1) (mapView (scalePt k) e2) = cmpView e1 e2 :=
  cmpView_map _ (scale_orderPreserving k hk) e1 e2

theorem C08_event_order_shift (dx dy : Rat) (e1 e2 : EvView) :
    cmpView (mapView (shiftPt dx dy) e1) (mapView (shiftPt dx dy) e2) = cmpView e1 e2 :=
  cmpView_map _ (shift_orderPreserving dx dy) e1 e2

/-- a mirror image reverses the orientation sign: only the region commutes with the axis symmetries -/
theorem C08_orientation_mirror (a b c : Pt) :
    orient ⟨-a.x, a.y⟩ ⟨-b.x, b.y⟩ ⟨-c.x, c.y⟩ = - orient a b c := by
  unfold orient
  ring

example : cmpView (mapView (scalePt 8) ⟨⟨0, 0⟩, true, some ⟨1, 1⟩, true⟩) (mapView (scalePt 8) ⟨⟨0, 0⟩, true, some ⟨2, 1⟩, false⟩)
    = cmpView ⟨⟨0, 0⟩, true, some ⟨1, 1⟩, true⟩ ⟨⟨0, 0⟩, true, some ⟨2, 1⟩, false⟩ :=
  C08_event_order_scale 8 (by decide +kernel) _ _

/-- The rounded intersection routine commutes with exact scaling: same classification, coordinates scaled bit for bit.
    `ScalesExactly` holds of binary floating point for `c` a power of two while nothing over- or underflows; it is
    validated per run by the `mappedrings` checks at 2^-60 and 2^-200 and by the scaled f32 cases. -/
theorem C08_intersection_scale (ar : Arith) (c : Rat) (h : ScalesExactly ar c) (hc : 0 < c) (a1 a2 b1 b2 : Pt) :
    ar.isect (scalePt c a1) (scalePt c a2) (scalePt c b1) (scalePt c b2) = scaleIsect c (ar.isect a1 a2 b1 b2) := by
  have hm := ordEmb_mul hc
  have hf : ∀ p, scalePt c p = { x := c * p.x, y := c * p.y } := fun _ => rfl
  unfold Arith.isect
  rw [isectBBox_map hf hm hm, isectImpl_scale h hc]
  cases isectBBox a1 a2 b1 b2 with
  | none => rfl
  | some bb =>
    simp only [Option.map_some]
    cases ar.isectImpl a1 a2 b1 b2 with
    | none => rfl
    | nonfinite => rfl
    | point p => simp only [scaleIsect, clampPt_map hf hm hm]
    | overlap p q => simp only [scaleIsect, clampPt_map hf hm hm]

example (c : Rat) : ScalesExactly Arith.exact c := scalesExactly_exact c

/-- C08, the whole run: for a map `f` of the plane that acts on each coordinate separately, preserves the coordinate
    order and the orientation sign, fixes the origin, and commutes with the arithmetic's intersection routine and
    one-ulp step (`RunMap`), `boolean_operation` on the mapped operands returns, or fails with the same failure,
    exactly as on the original ones, and the result is the original one with every ring mapped by `f`: same polygons
    and vertices in the same order, same number of processed events. -/
theorem C08_run_equivariant (ar : Arith) (f : Pt → Pt) (gx gy : Rat → Rat) (h : RunMap ar f gx gy) (cfg : Cfg)
    (subject clipping : MPoly) (op : Op) :
    booleanOperation ar cfg (subject.map (mapPoly f)) (clipping.map (mapPoly f)) op =
      exMap (mapOut f) (booleanOperation ar cfg subject clipping op) := by
  rw [booleanOperation_eq, booleanOperation_eq]
  simp only [fillQueue_map h, mapFill, boxesDisjoint_map h]
  have ht : Except.ok (trivialOut (subject.map (mapPoly f)) (clipping.map (mapPoly f)) op)
      = exMap (mapOut f) (.ok (trivialOut subject clipping op)) := by
    simp only [exMap_ok, mapOut, trivialOut, trivialResult_map]
  split
  · exact ht
  · cases (fillQueue subject clipping op).sbbox with
    | none => exact ht
    | some sb =>
      cases (fillQueue subject clipping op).cbbox with
      | none => exact ht
      | some cb => exact sweepRun_map h cfg _ sb cb op

theorem C08_scaling_is_runMap (ar : Arith) (c : Rat) (hc : 0 < c) (hs : ScalesExactly ar c)
    (hn : ∀ x, ar.nextUp (c * x) = c * ar.nextUp x) :
    RunMap ar (scalePt c) (fun x => c * x) (fun y => c * y) where
  sep p := rfl
  op := scale_orderPreserving c hc
  inj := (scale_orderPreserving c hc).inj
  zero := by
    show scalePt c ⟨0, 0⟩ = ⟨0, 0⟩
    simp [scalePt]
  isect a1 a2 b1 b2 := by rw [C08_intersection_scale ar c hs hc, scaleIsect_eq_mapIsect]
  bump p := by
    simp only [scalePt, hn]

/-- C08 for the algorithm itself (exact arithmetic), every positive scale factor -/
theorem C08_exact_scaling (c : Rat) (hc : 0 < c) (cfg : Cfg) (subject clipping : MPoly) (op : Op) :
    booleanOperation Arith.exact cfg (subject.map (mapPoly (scalePt c))) (clipping.map (mapPoly (scalePt c))) op =
      exMap (mapOut (scalePt c)) (booleanOperation Arith.exact cfg subject clipping op) :=
  C08_run_equivariant _ _ _ _ (C08_scaling_is_runMap Arith.exact c hc (scalesExactly_exact c) (fun _ => rfl)) cfg subject clipping op

theorem C08_subdivide_equivariant (ar : Arith) (f : Pt → Pt) (gx gy : Rat → Rat) (h : RunMap ar f gx gy) (cfg : Cfg)
    (fq : FQ) (sb cb : BBox) (op : Op) :
    subdivide ar cfg (mapFQ f fq) (mapBB gx gy sb) (mapBB gx gy cb) op =
      exMap (mapSweepOut f) (subdivide ar cfg fq sb cb op) :=
  subdivide_map h cfg fq sb cb op

end Gbo.Props
