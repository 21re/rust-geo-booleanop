import Gbo.Proofs.Parity
import Gbo.Proofs.Assembly
/-
  C02 — result rings form a valid polygon set.  The consequence stated in the property: when holes lie in
  their exterior, holes of one polygon are disjoint and polygons are disjoint (at a point), the
  structural reading and the even-odd reading agree (at that point).  And the bookkeeping of `connect_edges`: a
  contour is recorded as a hole of `p` exactly when its id enters `p`'s `hole_ids` (`C02_hole_bookkeeping`), and
  the rings of the result are the traced contours, each once (`C02_every_contour_one_ring`).
-/
namespace Gbo.Props
open Gbo Gbo.Spec

def AtMostOne : List Bool → Prop
  | [] => True
  | x :: xs => (x = true → ∀ y ∈ xs, y = false) ∧ AtMostOne xs

theorem any_eq_parity (l : List Bool) (h : AtMostOne l) : l.any id = parity l := by
  induction l with
  | nil => rfl
  | cons x xs ih =>
    rw [parity_cons, List.any_cons, ih h.2]
    cases hx : x
    · simp
    · have := parity_all_false' xs (h.1 hx)
      simp [this]

/-- one polygon: exterior `e`, hole memberships `hs`; holes inside the exterior and pairwise disjoint -/
theorem poly_struct_eq_parity (e : Bool) (hs : List Bool)
    (hin : ∀ h ∈ hs, h = true → e = true) (hdis : AtMostOne hs) :
    (e && hs.all (fun h => !h)) = parity (e :: hs) := by
  rw [parity_cons, ← any_eq_parity hs hdis]
  cases e
  · -- outside the exterior no hole is entered
    rw [(List.any_eq_false.2 fun h hh hv => Bool.false_ne_true (hin h hh hv) : hs.any id = false)]
    rfl
  · rw [Bool.true_bne, List.not_any_eq_all_not]
    rfl

/-- C02's consequence, pointwise, for a whole multipolygon given as (exterior, holes) membership values -/
theorem C02_struct_eq_evenodd_of_valid (ps : List (Bool × List Bool))
    (hin : ∀ p ∈ ps, ∀ h ∈ p.2, h = true → p.1 = true)
    (hholes : ∀ p ∈ ps, AtMostOne p.2)
    (hpolys : AtMostOne (ps.map (fun p => p.1 && p.2.all (fun h => !h)))) :
    (ps.any (fun p => p.1 && p.2.all (fun h => !h))) = parity (ps.flatMap (fun p => p.1 :: p.2)) := by
  rw [parity_flatMap, ← List.map_congr_left fun p hp => poly_struct_eq_parity p.1 p.2 (hin p hp) (hholes p hp),
    ← any_eq_parity _ hpolys, List.any_map]
  rfl

/-- non-vacuity: a polygon with one hole and a second polygon elsewhere -/
example : AtMostOne [true, false] ∧ AtMostOne ([] : List Bool) := by
  simp [AtMostOne]

/-- Hole bookkeeping of `connect_edges`: a new contour initialised from its context is recorded as a hole of `p`
    (`hole_of = Some(p)`) exactly when its id is appended to `p`'s `hole_ids`, and no other contour changes.  Hence
    the final assembly (`hole_of.is_none()` ↦ polygon, `hole_ids` ↦ its interiors) lists every hole under exactly
    the contour it names as its parent. -/
theorem C02_hole_bookkeeping (cfg : Cfg) (a : Arena) (event : Nat) (contours contours' : Array Contour)
    (cid : Int) (c : Contour) (h : initializeFromContext cfg a event contours cid = .ok (c, contours')) :
    contours'.size = contours.size ∧
    (match c.holeOf with
     | some p => idxOk contours.size p = true ∧
         contours'[p.toNat]!.holeIds = contours[p.toNat]!.holeIds.push cid ∧
         ∀ j, j ≠ p.toNat → contours'[j]! = contours[j]!
     | none => contours' = contours) := by
  obtain ⟨-, -, rfl, hpar⟩ := initializeFromContext_spec h
  cases hc : c.holeOf with
  | none => exact ⟨rfl, rfl⟩
  | some p =>
    have hp := (hpar p hc).1
    refine ⟨Array.size_modify, hp, ?_, fun j hj => ?_⟩
    · rw [adopt, get!_modify_self (idxOk_iff.mp hp).2]
      rfl
    · rw [adopt, get!_modify_ne (Ne.symm hj)]

/-- C02, the whole-loop form of `C02_hole_bookkeeping`: every traced contour becomes exactly one ring, under the right
    polygon.  `cs` are the contours `connect_edges` traced.  The rings of the result, read polygon by polygon (shell,
    then interiors), are a rearrangement of the closed point lists of `cs`: no contour is lost and none is emitted
    twice; the polygons are, in order, the contours that are no hole; such a contour lists `j` exactly when `j`
    names it as its parent (`hole_of`); a parent is never a hole.  The assembly itself cannot fail
    (`Book.assemblePolys`): every listed id is a valid index. -/
theorem C02_every_contour_one_ring (ar : Arith) (cfg : Cfg) (subject clipping : MPoly) (op : Op) (out : RunOut)
    (h : booleanOperation ar cfg subject clipping op = .ok out) (hnt : out.trivial = false) :
    ∃ cs : Array Contour,
      (out.result.flatMap (fun p => p.ext :: p.holes)).Perm (cs.toList.map (fun c => closeRing c.points.toList)) ∧
      out.result.map (fun p => p.ext) =
        (cs.toList.filter (fun c => c.holeOf.isNone)).map (fun c => closeRing c.points.toList) ∧
      (∀ q, q < cs.size → cs[q]!.holeOf = none →
        polyOf cs cs[q]! ∈ out.result ∧
        ∀ j, j < cs.size → (cs[j]!.holeOf = some (q : Int) ↔ (j : Int) ∈ cs[q]!.holeIds.toList)) ∧
      (∀ j, j < cs.size → ∀ p, cs[j]!.holeOf = some p → idxOk cs.size p = true ∧ cs[p.toNat]!.holeOf = none) := by
  obtain ⟨_, _, _, cs, _, -, -, hb, hres⟩ := booleanOperation_assembly h hnt
  refine ⟨cs, ?_, ?_, fun q hq hext => ⟨?_, fun j hj => ⟨fun hp => ?_, fun hmem => ?_⟩⟩,
    fun j hj p hp => ⟨(hb.parent j hj p hp).1, (hb.parent j hj p hp).2.1⟩⟩
  · exact hres ▸ hb.rings_perm
  · rw [hres, List.map_map]
    rfl
  · rw [hres]
    exact List.mem_map_of_mem (List.mem_filter.mpr ⟨get!_mem hq, congrArg Option.isNone hext⟩)
  · exact (hb.parent j hj _ hp).2.2
  · exact (hb.child q hq _ hmem).2

/-- non-vacuity of the bookkeeping invariant: a polygon with a hole and an island in that hole -/
example : Book #[{ holeIds := #[1] }, { holeOf := some 0 }, { }] := by
  have h0 := book_empty.push (c := { }) rfl nofun
  have h1 := h0.push (c := { holeOf := some 0 }) rfl fun _ e => Option.some.inj e ▸ ⟨by decide, rfl⟩
  exact h1.push (c := { }) rfl nofun

end Gbo.Props
