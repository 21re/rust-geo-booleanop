import Gbo.Proofs.Layout
/-
  C01, per run: the check that `tools/check C01` evaluates on the implementation's output (`CHECK region`,
  tolerance 0 on exact families) is a kernel-checked certificate: when it answers `ok`, the result, read
  structurally, equals the named Boolean combination of the operands, read even-odd, at EVERY point of the
  plane that lies on no edge and on none of finitely many vertical lines.  Only the quantifier over operand
  pairs remains sampled.
-/
namespace Gbo.Props
open Gbo Gbo.Spec

theorem C01_check_sound (a b r : MPoly) (op : Op) (c t : Nat)
    (h : c01Check a b r op 0 = .ok c t) (q : Pt)
    (hclear : ∀ i, i < (c01Layout a b r).atoms.size → ∀ e ∈ (c01Layout a b r).atoms[i]!, onSeg q e = false)
    (hx : ∀ y ∈ breakpoints (tagAll (c01Layout a b r).atoms), q.x ≠ y) :
    memMP r q = opSem op (memEO a q) (memEO b q) :=
  beq_iff_eq.mp (c01Formula_at a b r op q ▸ regionFormulaCheck_sound _ _ c t h q hclear hx)

/-- non-vacuity: the check accepts the union of two overlapping squares -/
example :
    (match c01Check
        [{ ext := [⟨0,0⟩, ⟨2,0⟩, ⟨2,2⟩, ⟨0,2⟩, ⟨0,0⟩], holes := [] }]
        [{ ext := [⟨1,0⟩, ⟨3,0⟩, ⟨3,2⟩, ⟨1,2⟩, ⟨1,0⟩], holes := [] }]
        [{ ext := [⟨0,0⟩, ⟨1,0⟩, ⟨2,0⟩, ⟨3,0⟩, ⟨3,2⟩, ⟨2,2⟩, ⟨1,2⟩, ⟨0,2⟩, ⟨0,0⟩], holes := [] }]
        .union 0 with
      | .ok _ _ => true
      | _ => false) = true := by
  decide +kernel

/-- the same certificate for any tolerance ≥ 0 (floating families): the statement then speaks about the
    points left / right of everything and the points of the cells that were checked; cells thinner than the
    tolerance are the ones the run reports as skipped -/
theorem C01_check_sound_tol (a b r : MPoly) (op : Op) (tol : Rat) (htol : 0 ≤ tol) (c t : Nat)
    (h : c01Check a b r op tol = .ok c t) (q : Pt)
    (hclear : ∀ i, i < (c01Layout a b r).atoms.size → ∀ e ∈ (c01Layout a b r).atoms[i]!, onSeg q e = false)
    (hcell : (∀ y ∈ breakpoints (tagAll (c01Layout a b r).atoms), q.x < y)
           ∨ (∀ y ∈ breakpoints (tagAll (c01Layout a b r).atoms), y < q.x)
           ∨ InCheckedCell (tagAll (c01Layout a b r).atoms) tol (breakpoints (tagAll (c01Layout a b r).atoms)) q) :
    memMP r q = opSem op (memEO a q) (memEO b q) :=
  beq_iff_eq.mp (c01Formula_at a b r op q ▸ regionFormulaCheck_sound_tol _ _ tol htol c t h q hclear hcell)

end Gbo.Props
