import Gbo.Spec.Region
import Gbo.Proofs.FillQueue
import Gbo.Proofs.Run
/-
  C06 — set-algebra laws.  Proved outright, for every arithmetic: with an empty operand (no polygons, or rings
  without any edge) every operation takes the shortcut and returns the listed value.  The laws hold pointwise for
  the semantics of the four operations, so commutativity follows wherever C01 holds for both calls.  In the
  selection tables only the `difference` rows read the operand flag; coinciding edges of `A op A` are selected as
  the laws demand.
-/
namespace Gbo.Props
open Gbo Gbo.Spec

/-- an operand none of whose rings has an edge (`LineString::lines()` yields nothing) -/
def NoEdges (m : MPoly) : Prop := ∀ p ∈ m, p.ext.length ≤ 1 ∧ ∀ h ∈ p.holes, h.length ≤ 1

theorem C06_empty (ar : Arith) (cfg : Cfg) (a b : MPoly) (op : Op) (h : NoEdges a ∨ NoEdges b) :
    ∃ r, booleanOperation ar cfg a b op = .ok r ∧ r.trivial = true ∧ r.result = trivialResult a b op := by
  rw [booleanOperation_eq]
  have hd : boxesDisjoint (fillQueue a b op).sbbox (fillQueue a b op).cbbox = true := by
    -- the box of an operand is folded over the starts of its lines, and there are none
    obtain ⟨-, -, hsb, hcb⟩ := fillQueue_spec a b op
    rcases h with h | h
    · rw [hsb, operandStarts_eq_nil h]
      rfl
    · rw [hcb, operandStarts_eq_nil h]
      cases (fillQueue a b op).sbbox <;> rfl
  simp only [hd, if_true]
  exact ⟨_, rfl, rfl, rfl⟩

theorem C06_empty_values (a : MPoly) :
    trivialResult a [] .union = a ∧ trivialResult a [] .difference = a ∧ trivialResult a [] .intersection = []
    ∧ trivialResult [] a .difference = [] ∧ trivialResult [] a .union = a ∧ trivialResult a [] .xor = a := by
  simp [trivialResult]

/-- touching boxes do not take the shortcut: the test is strict -/
example : boxesDisjoint (some ⟨0, 0, 1, 1⟩) (some ⟨1, 0, 2, 1⟩) = false := by decide +kernel
example : boxesDisjoint (some ⟨0, 0, 1, 1⟩) (some ⟨2, 0, 3, 1⟩) = true := by decide +kernel
/-- non-vacuity of `NoEdges`: the empty operand and a polygon with an empty exterior -/
example : NoEdges [] ∧ NoEdges [{ ext := [], holes := [] }] := by
  refine ⟨nofun, fun p hp => ?_⟩
  cases List.mem_singleton.mp hp
  exact ⟨Nat.zero_le _, nofun⟩

theorem C06_laws (a b : Bool) :
    opSem .intersection a b = opSem .intersection b a
    ∧ opSem .union a b = opSem .union b a
    ∧ opSem .xor a b = opSem .xor b a
    ∧ opSem .intersection a a = a ∧ opSem .union a a = a
    ∧ opSem .difference a a = false ∧ opSem .xor a a = false
    ∧ opSem .union a false = a ∧ opSem .difference a false = a
    ∧ opSem .intersection a false = false ∧ opSem .difference false a = false
    ∧ opSem .xor a false = a := by
  revert a b
  decide

theorem C06_of_C01 (op : Op) (hop : op ≠ .difference) (a b r1 r2 : MPoly) (q : Pt)
    (h1 : memMP r1 q = opSem op (memEO a q) (memEO b q))
    (h2 : memMP r2 q = opSem op (memEO b q) (memEO a q)) : memMP r1 q = memMP r2 q := by
  rw [h1, h2]
  cases op with
  | intersection => exact (C06_laws _ _).1
  | union => exact (C06_laws _ _).2.1
  | xor => exact (C06_laws _ _).2.2.1
  | difference => exact absurd rfl hop

/-- operand swap, table level: swapping the operands flips `is_subject` on every event, which for the three symmetric
    operations neither table reads.  For difference both do (`C06_tables_difference_asymmetric`), which is why swap
    is not claimed there. -/
theorem C06_tables_symmetric (op : Op) (hop : op ≠ .difference) (et : EdgeType) (s s' io oio : Bool) :
    inResultOf et op s oio = inResultOf et op s' oio
    ∧ resultTransitionOf et op s io oio = resultTransitionOf et op s' io oio := by
  cases op with
  | difference => exact absurd rfl hop
  | intersection => cases et <;> exact ⟨rfl, rfl⟩
  | union => cases et <;> exact ⟨rfl, rfl⟩
  | xor => cases et <;> exact ⟨rfl, rfl⟩

theorem C06_tables_difference_asymmetric :
    inResultOf .normal .difference true true ≠ inResultOf .normal .difference false true := by decide

/-- `A op A`, table level: every edge coincides with an edge of the other operand with the same orientation, and
    `possible_intersection` types the pair (non-contributing, same-transition); the tables then select exactly one
    edge of each pair for intersection and union, with the transition of the edge itself, and no edge at all for
    difference and xor -/
theorem C06_tables_self (op : Op) (s io oio : Bool) :
    inResultOf .nonContributing op s oio = false
    ∧ inResultOf .sameTransition op s oio = (op == .intersection || op == .union)
    ∧ (inResultOf .sameTransition op s oio = true →
        resultTransitionOf .sameTransition op s io oio = if io then .inOut else .outIn) := by
  revert s io oio
  cases op <;> decide

end Gbo.Props
