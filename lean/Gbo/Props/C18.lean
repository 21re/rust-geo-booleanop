import Gbo.Proofs.SplayWalk
/-
  C18 — bounded stack.  What a model can carry: the teardown (`drop_tree`, used by `clear`, `Drop` and a
  partly consumed `IntoIter`) and the consuming iterator are LOOPS whose whole state is one tree — no
  auxiliary stack whose size could grow with the number or arrangement of nodes — and they free / yield
  every node exactly once, in ascending key order.  The order is observable and is compared with the real
  code by the stack scenarios (keys record the order in which they are dropped); frame sizes and the real
  stack limit are runtime facts decided by the child-process runs of tools/check C18.
-/
namespace Gbo.Props
open Gbo Gbo.Tree

variable {K V : Type}

theorem count_eq_length (t : Tree K V) : count t = (inorder t).length := by
  induction t with
  | nil => rfl
  | node l k v r ihl ihr =>
    rw [count, inorder, List.length_append, List.length_cons, ihl, ihr, Nat.add_assoc, Nat.add_comm 1]

/-- the one tree that is the loop's state loses exactly one node per freed node: nothing is parked elsewhere -/
theorem C18_teardown_state_is_one_tree (l : Tree K V) (k : K) (v : V) (r : Tree K V) :
    count (iterNextLoop l k v r).2.2 + 1 = count (node l k v r) := by
  rw [count_eq_length, count_eq_length]
  exact congrArg List.length (iterNextLoop_spec l k v r)

theorem dropAll_eq (fuel : Nat) (t : Tree K V) (h : count t ≤ fuel) : dropAll fuel t = inorder t := by
  induction fuel generalizing t with
  | zero =>
    rw [List.eq_nil_of_length_eq_zero ((count_eq_length t).symm.trans (Nat.le_zero.1 h))]
    rfl
  | succ n ih =>
    cases t with
    | nil => rfl
    | node l k v r =>
      -- one round frees the least node and leaves a tree with one node less
      rw [dropAll, ih _ (Nat.le_of_succ_le_succ (Nat.le_trans (Nat.le_of_eq (C18_teardown_state_is_one_tree l k v r)) h))]
      exact iterNextLoop_spec l k v r

theorem C18_teardown_frees_each_node_once (t : Tree K V) : dropAll (count t) t = inorder t :=
  dropAll_eq _ t (Nat.le_refl _)

/-- the consuming iterator (either direction) never loses or duplicates a node -/
theorem C18_iterator_steps (l : Tree K V) (k : K) (v : V) (r : Tree K V) :
    ((iterNextLoop l k v r).1, (iterNextLoop l k v r).2.1) :: inorder (iterNextLoop l k v r).2.2 = inorder l ++ (k, v) :: inorder r
    ∧ inorder (iterBackLoop l k v r).2.2 ++ [((iterBackLoop l k v r).1, (iterBackLoop l k v r).2.1)] = inorder l ++ (k, v) :: inorder r :=
  ⟨iterNextLoop_spec l k v r, iterBackLoop_spec l k v r⟩

/-- non-vacuity: a left chain of three nodes (what monotone insertion builds) -/
example : dropAll 3 (node (node (node nil 1 () nil) 2 () nil) 3 () nil : Tree Nat Unit) = [(1, ()), (2, ()), (3, ())] := by
  decide

end Gbo.Props
