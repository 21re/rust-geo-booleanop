import Gbo.Spec.Valid
import Gbo.Proofs.QueueContent
import Gbo.Proofs.Run
/-
  C07 — the result does not depend on how an operand is written down or wrapped.
  Proved outright, for every arithmetic and every input: wrapping (the four trait implementations) and repeated
  consecutive vertices (`process_polygon` skips collapsed edges).  For the direction of a ring and the vertex it
  starts at, the queue-filling half: the same segments are queued, as a multiset.
-/
namespace Gbo

theorem dedup_head (q : Pt) (rest : Ring) : ∃ t, Spec.dedupConsecutive (q :: rest) = q :: t := by
  induction rest generalizing q with
  | nil => exact ⟨[], rfl⟩
  | cons r rs ih =>
    by_cases h : q = r
    · rw [Spec.dedupConsecutive, if_pos h, h]
      exact ih r
    · exact ⟨_, by rw [Spec.dedupConsecutive, if_neg h]⟩

/-- dropping repeated vertices drops no line: `process_polygon` skips the collapsed ones anyway -/
theorem ringLines_dedup (r : Ring) : ringLines (Spec.dedupConsecutive r) = ringLines r := by
  fun_induction Spec.dedupConsecutive r with
  | case1 q rest ih => rw [ih, ringLines_cons_cons, if_pos rfl, List.nil_append]
  | case2 p q rest hpq ih =>
    obtain ⟨t, ht⟩ := dedup_head q rest
    rw [ringLines_cons_cons, ← ih, ht, ringLines_cons_cons]
  | case3 => rfl

theorem processRing_dedup (subj : Bool) (cid : Nat) (ext : Bool) (st : FQ × Option BBox) (r : Ring) :
    processRing subj cid ext st (Spec.dedupConsecutive r) = processRing subj cid ext st r := by
  rw [processRing_eq, processRing_eq, ringLines_dedup]

end Gbo

namespace Gbo.Props
open Gbo Gbo.Spec

theorem C07_wrapping (ar : Arith) (cfg : Cfg) (a b : Poly) (op : Op) :
    polyPoly ar cfg a b op = multiMulti ar cfg [a] [b] op
    ∧ polyMulti ar cfg a [b] op = multiMulti ar cfg [a] [b] op
    ∧ multiPoly ar cfg [a] b op = multiMulti ar cfg [a] [b] op := ⟨rfl, rfl, rfl⟩

def dedupPoly (p : Poly) : Poly := { ext := dedupConsecutive p.ext, holes := p.holes.map dedupConsecutive }

theorem processPolygon_dedup (subj : Bool) (cid : Nat) (ext : Bool) (st : FQ × Option BBox) (p : Poly) :
    processPolygon subj cid ext st (dedupPoly p) = processPolygon subj cid ext st p := by
  simp only [processPolygon, dedupPoly, List.foldl_map, processRing_dedup]

theorem C07_repeated_vertices_fillQueue (a b : MPoly) (op : Op) :
    fillQueue (a.map dedupPoly) (b.map dedupPoly) op = fillQueue a b op := by
  have hs : ∀ acc p, subjStep acc (dedupPoly p) = subjStep acc p := fun _ _ => by
    simp only [subjStep, processPolygon_dedup]
  have hc : ∀ acc p, clipStep op acc (dedupPoly p) = clipStep op acc p := fun _ _ => by
    simp only [clipStep, processPolygon_dedup]
  simp only [fillQueue, List.foldl_map, hs, hc]

/-- `h`: on the shortcut path the operands themselves are handed back, with their repeated vertices -/
theorem C07_repeated_vertices (ar : Arith) (cfg : Cfg) (a b : MPoly) (op : Op)
    (h : boxesDisjoint (fillQueue a b op).sbbox (fillQueue a b op).cbbox = false) :
    (booleanOperation ar cfg (a.map dedupPoly) (b.map dedupPoly) op).map (·.result)
      = (booleanOperation ar cfg a b op).map (·.result) := by
  rw [booleanOperation_eq, booleanOperation_eq]
  simp only [C07_repeated_vertices_fillQueue, h]
  -- the boxes are not disjoint, so both are there and the sweep branch, the same on both sides, is taken
  generalize (fillQueue a b op).sbbox = sb at h ⊢
  generalize (fillQueue a b op).cbbox = cb at h ⊢
  cases sb with
  | none => cases h
  | some sb =>
    cases cb with
    | none => cases h
    | some cb => rfl

/-- non-vacuity: a square with a tripled vertex against an overlapping square -/
example :
    let sq : Poly := { ext := [⟨0,0⟩, ⟨2,0⟩, ⟨2,0⟩, ⟨2,0⟩, ⟨2,2⟩, ⟨0,2⟩, ⟨0,0⟩], holes := [] }
    let sq2 : Poly := { ext := [⟨1,1⟩, ⟨3,1⟩, ⟨3,3⟩, ⟨1,3⟩, ⟨1,1⟩], holes := [] }
    boxesDisjoint (fillQueue [sq] [sq2] .union).sbbox (fillQueue [sq] [sq2] .union).cbbox = false := by
  decide +kernel

/-- ring direction: written in the opposite direction a ring makes `process_polygon` queue the same segments (left
    endpoint, right endpoint, operand, contour id, exterior flag) as a multiset, degenerate lines and repeated
    vertices included; only the positions in the event arena differ -/
theorem C07_queue_ring_reversed (subj : Bool) (cid : Nat) (ext : Bool) (ring : Ring) (st : FQ × Option BBox)
    (h : st.1.arena.size % 2 = 0) :
    (arenaSegs (processRing subj cid ext st ring.reverse).1.arena).Perm
      (arenaSegs (processRing subj cid ext st ring).1.arena) := by
  rw [processRing_segs subj cid ext ring.reverse st h, processRing_segs subj cid ext ring st h, ringSegs_reverse]
  exact (List.reverse_perm _).append_left _

/-- ring start: a closed ring started one vertex later queues the same segments; the case `l1 = []` of
    `processRing_rotate`, which starts it at any vertex -/
theorem C07_queue_ring_rotated (subj : Bool) (cid : Nat) (ext : Bool) (p m : Pt) (mid : List Pt) (st : FQ × Option BBox)
    (h : st.1.arena.size % 2 = 0) :
    (arenaSegs (processRing subj cid ext st (m :: mid ++ [p] ++ [m])).1.arena).Perm
      (arenaSegs (processRing subj cid ext st (p :: m :: mid ++ [p])).1.arena) :=
  processRing_rotate subj cid ext p m [] mid st h

/-- non-vacuity: a triangle written clockwise from (0,0) and counter-clockwise from (2,0) -/
example :
    let r1 : Ring := [⟨0, 0⟩, ⟨0, 2⟩, ⟨2, 0⟩, ⟨0, 0⟩]
    let r2 : Ring := [⟨2, 0⟩, ⟨0, 2⟩, ⟨0, 0⟩, ⟨2, 0⟩]
    (arenaSegs (processRing true 1 true ({}, none) r1).1.arena).length = 3 ∧
    ∀ s ∈ arenaSegs (processRing true 1 true ({}, none) r1).1.arena,
      s ∈ arenaSegs (processRing true 1 true ({}, none) r2).1.arena := by
  decide +kernel

end Gbo.Props
