import Gbo.Model.Connect
import Gbo.Props.Tables
/-
  C01 — each operation returns the set-theoretic region it names.

  Full-strength statement (not proved in general: it needs C13 ∧ C14 for every input, DESIGN.md 4.0);
  per run it is decided by the region comparator on the implementation's own output.
-/
namespace Gbo.Props
open Gbo Gbo.Spec

/-- no point of `es` is hit by `q` (the statement is about points clear of the input edges) -/
def ClearOf (q : Pt) (es : List Seg) : Prop := ∀ e ∈ es, onSeg q e = false

def inputSegs (m : MPoly) : List Seg := (allRings' m).flatMap ringEdges
where allRings' (m : MPoly) : List Ring := m.flatMap (fun p => p.ext :: p.holes)

/-- The property, for the model under arithmetic `ar`: whenever the run succeeds, the result read
    structurally equals the named combination of the operands read even-odd, at every clear point. -/
def C01_statement (ar : Arith) : Prop :=
  ∀ (cfg : Cfg) (a b : MPoly) (op : Op) (r : RunOut),
    booleanOperation ar cfg a b op = .ok r →
    ∀ q : Pt, ClearOf q (inputSegs a ++ inputSegs b) →
      memMP r.result q = opSem op (memEO a q) (memEO b q)

/-- the four trait implementations are `boolean_operation` with the subject first -/
theorem C01_pairings (ar : Arith) (cfg : Cfg) (a b : Poly) (ms ns : MPoly) (op : Op) :
    polyPoly ar cfg a b op = booleanOperation ar cfg [a] [b] op
    ∧ polyMulti ar cfg a ns op = booleanOperation ar cfg [a] ns op
    ∧ multiPoly ar cfg ms b op = booleanOperation ar cfg ms [b] op
    ∧ multiMulti ar cfg ms ns op = booleanOperation ar cfg ms ns op :=
  ⟨rfl, rfl, rfl, rfl⟩

theorem C01_trivial_values (a b : MPoly) :
    trivialResult a b .intersection = [] ∧ trivialResult a b .difference = a
    ∧ trivialResult a b .union = a ++ b ∧ trivialResult a b .xor = a ++ b := ⟨rfl, rfl, rfl, rfl⟩

end Gbo.Props
