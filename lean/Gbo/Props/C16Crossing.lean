import Gbo.Proofs.Divide
import Gbo.Props.C16
/-
  C16, crossing case under exact arithmetic: "splits each segment that contains the meeting point in its
  interior at one and the same point", with the effect on the event arena.
-/
namespace Gbo.Props
open Gbo

/-- Two non-parallel segments that meet, not merely in a common endpoint (`hns`).  The arena afterwards is
    `crossArena`: the first segment is divided at `p` iff `p` is interior to it, then the second one likewise, at the
    very same point.  (`divideArena_spec` says what a division does; `OnSegP_split`: the pieces tile the old
    segment.) -/
theorem C16_exact_crossing (cfg : Cfg) (st st' : SwSt) (se1 se2 o1 o2 : Nat) (p : Pt) (r : Nat)
    (h1 : st.arena[se1]!.other = some o1) (h2 : st.arena[se2]!.other = some o2)
    (hb1 : se1 < st.arena.size) (hbo1 : o1 < st.arena.size) (hb2 : se2 < st.arena.size) (hbo2 : o2 < st.arena.size)
    (hd1 : se1 ≠ o1) (hd2 : se2 ≠ se1) (hd3 : se2 ≠ o1)
    (hk : krossOf st.arena[se1]!.point st.arena[o1]!.point st.arena[se2]!.point st.arena[o2]!.point ≠ 0)
    (hp : Arith.exact.isect st.arena[se1]!.point st.arena[o1]!.point st.arena[se2]!.point st.arena[o2]!.point = .point p)
    (hns : ¬ (st.arena[se1]!.point = st.arena[se2]!.point ∨ st.arena[o1]!.point = st.arena[o2]!.point))
    (h : possibleIntersection Arith.exact cfg st se1 se2 = .ok (r, st')) :
    r = 1 ∧
    OnSegP p st.arena[se1]!.point st.arena[o1]!.point ∧ OnSegP p st.arena[se2]!.point st.arena[o2]!.point ∧
    st'.arena = crossArena st.arena se1 o1 se2 o2 p := by
  obtain ⟨on1, on2⟩ := C16_exact_point_on_both _ _ _ _ p hk hp
  simp only [possibleIntersection_eq, h1, h2, hp, if_neg hns] at h
  obtain ⟨st1, hs1, h⟩ := bind_ok h
  obtain ⟨st2, hs2, h⟩ := bind_ok h
  obtain ⟨rfl, rfl⟩ := Prod.mk.inj (pure_ok h)
  have ha1 := optDivide_exact_arena hs1 h1
  -- the first division leaves the pairing of `se2` alone
  have h2' : st1.arena[se2]!.other = some o2 := by
    rw [ha1]
    split
    · rw [(divideArena_divided p h1 hbo1 hd1).other_old se2 hb2 hd2 hd3, h2]
    · exact h2
  refine ⟨rfl, on1, on2, ?_⟩
  rw [optDivide_exact_arena hs2 h2', ha1]
  rfl

/-- non-vacuity: the diagonals of a square; both are divided at (1, 1): four events appended -/
example :
    let a : Arena := #[{ point := ⟨0, 0⟩, left := true, other := some 1, isSubject := true, contourId := 0, isExteriorRing := true },
                       { point := ⟨2, 2⟩, left := false, other := some 0, isSubject := true, contourId := 0, isExteriorRing := true },
                       { point := ⟨0, 2⟩, left := true, other := some 3, isSubject := false, contourId := 1, isExteriorRing := true },
                       { point := ⟨2, 0⟩, left := false, other := some 2, isSubject := false, contourId := 1, isExteriorRing := true }]
    (match possibleIntersection Arith.exact {} { arena := a, heap := #[] } 0 2 with
     | .ok (r, st') => r == 1 && st'.arena.size == 8 && st'.arena[0]!.other == some 4 && st'.arena[2]!.other == some 6 &&
        st'.arena[4]!.point.x == 1 && st'.arena[6]!.point.y == 1 && (crossArena a 0 1 2 3 ⟨1, 1⟩).size == 8
     | .error _ => false) = true := by
  decide +kernel

end Gbo.Props
