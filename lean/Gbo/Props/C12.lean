import Gbo.Model.Connect
/-
  C12 — purity and determinism.  The model is a function of its arguments, so "equal operands give equal
  results" holds by reflexivity; the theorem below carries no information about the code and is labelled
  so.  The content of C12 is that the implementation IS such a function: that is what the history /
  thread runs of the correspondence check and the source scan establish (DESIGN.md, C12).
-/
namespace Gbo.Props
open Gbo

theorem C12_model_is_a_function (ar : Arith) (cfg : Cfg) (a b a' b' : MPoly) (op : Op)
    (ha : a = a') (hb : b = b') :
    booleanOperation ar cfg a b op = booleanOperation ar cfg a' b' op :=
  ha ▸ hb ▸ rfl

end Gbo.Props
