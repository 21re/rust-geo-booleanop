import Gbo.Model.Sweep
/-
  Executable specification of regions (imports nothing outside core and the model's basic types).

  * point membership by the crossing-number rule with the half-open convention,
  * the region comparator: a finite computation that decides a Boolean formula over ring
    memberships for all points of the checked cells of a slab decomposition.
-/
namespace Gbo.Spec
open Gbo

abbrev Seg := Pt × Pt

def ringEdges : Ring → List Seg
  | p :: q :: rest => (p, q) :: ringEdges (q :: rest)
  | _ => []

/-- the edge `a b` is crossed by the upward ray from below `q`... i.e. it lies strictly below `q`
    and its half-open x-extent contains `q.x` -/
def edgeBelow (q : Pt) (e : Seg) : Bool :=
  let (l, r) := if e.1.x ≤ e.2.x then (e.1, e.2) else (e.2, e.1)
  decide (l.x ≤ q.x) && decide (q.x < r.x) && decide (orient l r q > 0)

def parity (l : List Bool) : Bool := l.foldl (fun acc b => acc != b) false

def memEdges (es : List Seg) (q : Pt) : Bool := parity (es.map (edgeBelow q))
def memRing (r : Ring) (q : Pt) : Bool := memEdges (ringEdges r) q
/-- even-odd reading of all rings together -/
def memEO (m : MPoly) (q : Pt) : Bool :=
  parity (m.flatMap (fun p => (p.ext :: p.holes).map (fun r => memRing r q)))
/-- structural reading: inside the exterior and outside every hole of some polygon -/
def memPoly (p : Poly) (q : Pt) : Bool := memRing p.ext q && p.holes.all (fun h => !memRing h q)
def memMP (m : MPoly) (q : Pt) : Bool := m.any (fun p => memPoly p q)

def opSem : Op → Bool → Bool → Bool
  | .intersection, a, b => a && b
  | .union, a, b => a || b
  | .difference, a, b => a && !b
  | .xor, a, b => a != b

def onSeg (q : Pt) (e : Seg) : Bool :=
  decide (orient e.1 e.2 q = 0) &&
  decide (rmin e.1.x e.2.x ≤ q.x) && decide (q.x ≤ rmax e.1.x e.2.x) &&
  decide (rmin e.1.y e.2.y ≤ q.y) && decide (q.y ≤ rmax e.1.y e.2.y)

/-! ### the comparator

  Decides a Boolean formula over atom memberships for all points of the plane that are clear of the
  edges, by a slab decomposition.  The checker VERIFIES its own preconditions per slab (every edge either
  spans the slab or misses its interior, the spanning edges are ordered at both slab ends, all edges lie
  between the outermost breakpoints), so that its soundness (Gbo/Proofs/ComparatorA.lean, ComparatorB.lean, ComparatorC.lean) does not depend
  on how the breakpoints were found. -/

/-- y of the (non-vertical) segment's line at abscissa x -/
def yAt (e : Seg) (x : Rat) : Rat :=
  e.1.y + (e.2.y - e.1.y) * (x - e.1.x) / (e.2.x - e.1.x)

/-- abscissa of the crossing of two non-parallel lines, if any -/
def crossX (e f : Seg) : Option Rat :=
  let d1x := e.2.x - e.1.x
  let d1y := e.2.y - e.1.y
  let d2x := f.2.x - f.1.x
  let d2y := f.2.y - f.1.y
  let den := d1x * d2y - d1y * d2x
  if den = 0 then none else
  let t := ((f.1.x - e.1.x) * d2y - (f.1.y - e.1.y) * d2x) / den
  some (e.1.x + t * d1x)

def insertSorted (x : Rat) : List Rat → List Rat
  | [] => [x]
  | y :: ys => if x < y then x :: y :: ys else if x = y then y :: ys else y :: insertSorted x ys

def sortDedup (xs : List Rat) : List Rat := xs.foldl (fun acc x => insertSorted x acc) []

structure Tagged where
  seg : Seg
  atom : Nat
deriving Inhabited, DecidableEq

def segMinX (e : Seg) : Rat := rmin e.1.x e.2.x
def segMaxX (e : Seg) : Rat := rmax e.1.x e.2.x

/-- the edge is not vertical and its x-extent contains the whole slab -/
def spansSlab (e : Seg) (x0 x1 : Rat) : Bool :=
  decide (e.1.x ≠ e.2.x) && decide (segMinX e ≤ x0) && decide (x1 ≤ segMaxX e)

/-- the edge is vertical or its x-extent misses the interior of the slab -/
def missesSlab (e : Seg) (x0 x1 : Rat) : Bool :=
  decide (e.1.x = e.2.x) || decide (segMaxX e ≤ x0) || decide (x1 ≤ segMinX e)

/-- insertion sort of tagged edges by their ordinate at `xm` -/
def insertByY (xm : Rat) (t : Tagged) : List Tagged → List Tagged
  | [] => [t]
  | u :: us => if yAt t.seg xm ≤ yAt u.seg xm then t :: u :: us else u :: insertByY xm t us

def sortByY (xm : Rat) (ts : List Tagged) : List Tagged := ts.foldl (fun l t => insertByY xm t l) []

/-- consecutive edges are (weakly) ordered at abscissa `x` -/
def orderedAt (x : Rat) : List Tagged → Bool
  | a :: b :: rest => decide (yAt a.seg x ≤ yAt b.seg x) && orderedAt x (b :: rest)
  | _ => true

/-- number of edges of atom `i` in the list, mod 2 -/
def oddCount (i : Nat) (ts : List Tagged) : Bool := parity (ts.map (fun t => t.atom == i))

/-- the membership vector produced by crossing exactly the edges `ts` from below -/
def vecOf (n : Nat) (ts : List Tagged) : Array Bool := (Array.range n).map (fun i => oddCount i ts)

inductive CheckResult
  | ok (cells thin : Nat)
  | fail (witness : Pt)
  | unordered (x : Rat)        -- a precondition of a slab does not hold (a bug of the checker, never of the input)
deriving Repr, Inhabited

/-- Is the gap between the `j`-th and the `(j+1)`-th edge of the slab (counted from below) a real cell?
    `none`: the two edges coincide on the slab; `some thin`. -/
def gapKind (tol xm : Rat) (below above : Option Tagged) : Option Bool :=
  match below, above with
  | some a, some b =>
    let d := yAt b.seg xm - yAt a.seg xm
    if d = 0 then none else some (decide (d ≤ tol))
  | _, _ => some false

/-- walk the gaps of one slab from below: `done` are the edges already crossed (in order), `rest` those
    still above.  Returns the first gap where `f` fails (as the index of the gap), counting cells. -/
def walkGaps (f : Array Bool → Bool) (n : Nat) (tol xm : Rat) : List Tagged → List Tagged → Nat × Nat → Option (List Tagged) ⊕ (Nat × Nat)
  | done, [], (c, t) =>
    if f (vecOf n done) then .inr (c + 1, t) else .inl (some done)
  | done, b :: rest, (c, t) =>
    match gapKind tol xm done.getLast? (some b) with
    | none => walkGaps f n tol xm (done ++ [b]) rest (c, t)
    | some true => walkGaps f n tol xm (done ++ [b]) rest (c, t + 1)
    | some false =>
      if f (vecOf n done) then walkGaps f n tol xm (done ++ [b]) rest (c + 1, t)
      else .inl (some done)

/-- the same walk with the membership vector maintained incrementally (`v` = `vecOf n done`, `last` =
    `done.getLast?`, `k` = `done.length`); this is the one that is executed — Gbo/Proofs/ComparatorB.lean
    proves that it succeeds only if `walkGaps` does -/
def walkGapsV (f : Array Bool → Bool) (tol xm : Rat) : Option Tagged → Nat → List Tagged → Array Bool → Nat × Nat → Option Nat ⊕ (Nat × Nat)
  | _, k, [], v, (c, t) =>
    if f v then .inr (c + 1, t) else .inl (some k)
  | last, k, b :: rest, v, (c, t) =>
    match gapKind tol xm last (some b) with
    | none => walkGapsV f tol xm (some b) (k + 1) rest (v.modify b.atom (fun x => !x)) (c, t)
    | some true => walkGapsV f tol xm (some b) (k + 1) rest (v.modify b.atom (fun x => !x)) (c, t + 1)
    | some false =>
      if f v then walkGapsV f tol xm (some b) (k + 1) rest (v.modify b.atom (fun x => !x)) (c + 1, t)
      else .inl (some k)

/-- a witness point inside the gap above the edges `done` at the middle of the slab -/
def gapWitness (xm : Rat) (done rest : List Tagged) : Pt :=
  match done.getLast?, rest.head? with
  | some a, some b => { x := xm, y := (yAt a.seg xm + yAt b.seg xm) / 2 }
  | some a, none => { x := xm, y := yAt a.seg xm + 1 }
  | none, some b => { x := xm, y := yAt b.seg xm - 1 }
  | none, none => { x := xm, y := 0 }

/-- all checks of one slab -/
def checkSlab (all : List Tagged) (f : Array Bool → Bool) (n : Nat) (tol x0 x1 : Rat) (acc : Nat × Nat) :
    CheckResult ⊕ (Nat × Nat) :=
  let xm := (x0 + x1) / 2
  if !(all.all (fun t => spansSlab t.seg x0 x1 || missesSlab t.seg x0 x1)) then .inl (.unordered xm) else
  let sorted := sortByY xm (all.filter (fun t => spansSlab t.seg x0 x1))
  if !(orderedAt x0 sorted && orderedAt x1 sorted) then .inl (.unordered xm) else
  match walkGapsV f tol xm none 0 sorted (vecOf n []) acc with
  | .inr acc' => .inr acc'
  | .inl (some k) => .inl (.fail (gapWitness xm (sorted.take k) (sorted.drop k)))
  | .inl none => .inl (.unordered xm)

def checkSlabs (all : List Tagged) (f : Array Bool → Bool) (n : Nat) (tol : Rat) : List Rat → Nat × Nat → CheckResult
  | x0 :: x1 :: rest, acc =>
    if x1 - x0 ≤ tol then
      -- a slab thinner than the tolerance is skipped and counted (never for tol = 0 and x0 < x1)
      if x0 < x1 then checkSlabs all f n tol (x1 :: rest) (acc.1, acc.2 + 1) else .unordered x0
    else
      match checkSlab all f n tol x0 x1 acc with
      | .inl r => r
      | .inr acc' => checkSlabs all f n tol (x1 :: rest) acc'
  | _, acc => .ok acc.1 acc.2

/-- all edges lie between the outermost breakpoints -/
def boundsOk (all : List Tagged) (xs : List Rat) : Bool :=
  match xs.head?, xs.getLast? with
  | some lo, some hi => all.all (fun t => decide (lo ≤ segMinX t.seg) && decide (segMaxX t.seg ≤ hi))
  | _, _ => all.isEmpty

def tagAll (atoms : Array (List Seg)) : List Tagged :=
  (List.range atoms.size).flatMap (fun i => atoms[i]!.map (fun s => { seg := s, atom := i }))

/-- breakpoints: every endpoint abscissa and every crossing abscissa inside both x-extents -/
def breakpoints (all : List Tagged) : List Rat :=
  let nonvert := (all.filter (fun t => t.seg.1.x ≠ t.seg.2.x)).toArray
  let xsEnd := all.flatMap (fun t => [t.seg.1.x, t.seg.2.x])
  let xsCross : List Rat := Id.run do
    let mut out : List Rat := []
    for i in [0:nonvert.size] do
      for j in [i+1:nonvert.size] do
        let e := nonvert[i]!.seg
        let g := nonvert[j]!.seg
        match crossX e g with
        | none => pure ()
        | some x =>
          if segMinX e < x ∧ x < segMaxX e ∧ segMinX g < x ∧ x < segMaxX g then
            out := x :: out
    return out
  sortDedup (xsEnd ++ xsCross)

/-- The comparator.  `atoms[i]` is the edge list of atom `i` (usually one ring); `f` is the formula
    over the atoms' memberships that must hold at every point clear of the edges. -/
def regionFormulaCheck (atoms : Array (List Seg)) (f : Array Bool → Bool) (tol : Rat) : CheckResult :=
  let all := tagAll atoms
  let xs := breakpoints all
  let n := atoms.size
  if !boundsOk all xs then .unordered 0 else
  -- left and right of all edges every membership is false
  if !(f (vecOf n [])) then .fail { x := (xs.head?.getD 0) - 1, y := 0 } else
  checkSlabs all f n tol xs (0, 0)

end Gbo.Spec
